import DynetxModel.ConformityH
import DynetxProofs.Lemmas.Lists
import DynetxProofs.Lemmas.Upsert
/-
  `confWindow`, the control skeleton of which the four `delta_conformity` models are instances (`deltaConformity*_eq`).
  The file also holds `tdStep`, the step of the `t_distances` fold that every body starts with: C20Rename.lean and
  Equivariance.lean both transport that fold, and this is the file below both that loads no Mathlib.
-/
namespace Dynetx

/-- `t_distances[u][v] = m` for a group of paths from `u` to `v ≠ u` whose shortest selected path has `m` hops -/
def tdStep (ptype : Nat) (u : Node) (acc : List (Node × Nat)) (kp : (Node × Node) × List TPath) : List (Node × Nat) :=
  if kp.1.1 == u && kp.1.1 != kp.1.2 then
    match minNat ((selectPaths (annotatePaths kp.2) ptype).map (·.length)) with
    | some m => upsert acc kp.1.2 (fun e => (e.1, m)) m
    | none => acc
  else acc

theorem tDistances_eq_foldl (sp : c13_Res) (ptype : Nat) (u : Node) :
    tDistances sp ptype u = sp.foldl (tdStep ptype u) [] := rfl

/-- `delta_conformity` without its scores: the slice `[start, start + delta]`, `None` when it has no snapshot, the
    time-respecting paths between its first and last instant inside the window, then the body `k` on (slice, paths).

    `k` returns `Except Err (Option β)`, not `Except Err β` with the frame adding `some`: the frame would then end in a
    `match` over the type variable `β`, another matcher constant than the model's over the concrete result type, and
    `rfl` does not unfold a matcher whose discriminant is stuck: `deltaConformityH_eq` would be lost. -/
def confWindow {β : Type} (dg : Graph) (start delta : Int) (k : Graph → c13_Res → Except Err (Option β)) :
    Except Err (Option β) :=
  match dg.timeSlice start (some (start + delta)) with
  | .error e => .error e
  | .ok g =>
    match minList g.ids, maxList g.ids with
    | some mmid, some mid =>
      match g.allTimeRespectingPaths (some (max start mmid)) (some (min mid (start + delta))) none with
      | .error e => .error e
      | .ok sp => k g sp
    | _, _ => .ok none

theorem allOk_ok {α : Type} {L : List (Except Err α)} {r : List α} (h : allOk L = .ok r) : L = r.map .ok := by
  induction L generalizing r with
  | nil => cases h; rfl
  | cons x L ih =>
    cases x with
    | error e => cases h
    | ok a =>
      unfold allOk at h
      cases hl : allOk L with
      | error e => rw [hl] at h; cases h
      | ok l => rw [hl] at h; cases h; rw [ih hl]; rfl

theorem allOk_error {α : Type} {L : List (Except Err α)} {e : Err} (h : allOk L = .error e) : .error e ∈ L := by
  induction L with
  | nil => cases h
  | cons x L ih =>
    cases x with
    | error e' => cases h; exact List.mem_cons_self
    | ok a =>
      unfold allOk at h
      cases hl : allOk L with
      | error e' => rw [hl] at h; cases h; exact List.mem_cons_of_mem _ (ih hl)
      | ok l => rw [hl] at h; cases h
theorem allOk_map_ok {α β : Type} (F : α → β) (l : List α) :
    allOk (l.map (fun x => (.ok (F x) : Except Err β))) = .ok (l.map F) := by
  induction l with
  | nil => rfl
  | cons x xs ih => simp only [List.map_cons, allOk, ih]

theorem allOk_map_hom {α β γ : Type} (l : List α) (F : α → Except Err β) (G : α → Except Err γ) (p : β → γ)
    (h : ∀ x ∈ l, G x = (F x).map p) : allOk (l.map G) = (allOk (l.map F)).map (List.map p) := by
  induction l with
  | nil => rfl
  | cons x xs ih =>
    have ih' := ih (fun y hy => h y (List.mem_cons_of_mem _ hy))
    simp only [List.map_cons, h x List.mem_cons_self]
    cases F x with
    | error e => rfl
    | ok y =>
      simp only [Except.map, allOk, ih']
      cases allOk (xs.map F) <;> rfl

theorem allOk_map_length {α β : Type} {F : β → Except Err α} {l : List β} {r : List α} (h : allOk (l.map F) = .ok r) :
    r.length = l.length := by
  rw [← l.length_map F, allOk_ok h, List.length_map]

theorem allOk_map_eq_ok {α β γ : Type} [Inhabited β] {F : α → Except Err β} (q : α → β → γ) {l : List α} {r : List γ}
    (h : allOk (l.map fun x => (F x).map (q x)) = .ok r) :
    ∃ f : α → β, (∀ x ∈ l, F x = .ok (f x)) ∧ r = l.map fun x => q x (f x) := by
  have hmap := allOk_ok h
  have hf : ∀ x ∈ l, F x = .ok (match F x with | .ok y => y | .error _ => default) := fun x hx => by
    have := hmap ▸ List.mem_map_of_mem (f := fun x => (F x).map (q x)) hx
    cases hF : F x with
    | error e => rw [hF] at this; simp [Except.map] at this
    | ok y => rfl
  refine ⟨_, hf, (List.map_inj_right fun a b h => Except.ok.inj h).1 (hmap.symm.trans ?_)⟩
  rw [List.map_map]
  exact List.map_congr_left fun x hx => by rw [hf x hx]; rfl

/-- `{k: F(k) for k in l}` where `F` may raise: the loop the full-featured model runs over the exponents, over the
    profiles and over the nodes -/
def tagOk {κ β : Type} (F : κ → Except Err β) (l : List κ) : Except Err (List (κ × β)) :=
  allOk (l.map fun k => (F k).map (Prod.mk k))

theorem tagOk_ok {κ β : Type} [Inhabited β] {F : κ → Except Err β} {l : List κ} {r : List (κ × β)}
    (h : tagOk F l = .ok r) : r.map (·.1) = l ∧ ∀ p ∈ r, F p.1 = .ok p.2 := by
  obtain ⟨f, hf, rfl⟩ := allOk_map_eq_ok Prod.mk h
  refine ⟨by simp [List.map_map, Function.comp_def], fun p hp => ?_⟩
  obtain ⟨k, hk, rfl⟩ := List.mem_map.1 hp
  exact hf k hk

theorem tagOk_pure {κ β : Type} (f : κ → β) (l : List κ) :
    tagOk (fun k => (.ok (f k) : Except Err β)) l = .ok (l.map fun k => (k, f k)) :=
  allOk_map_ok _ l

theorem tagOk_map_key {κ κ' β : Type} (f : κ → κ') (F : κ' → Except Err β) (l : List κ) :
    tagOk F (l.map f) = (tagOk (fun k => F (f k)) l).map (List.map fun kv => (f kv.1, kv.2)) := by
  unfold tagOk
  rw [List.map_map]
  exact allOk_map_hom l _ _ _ fun k _ => by
    simp only [Function.comp]
    cases F (f k) <;> rfl

theorem tagOk_map_val {κ β β' : Type} (p : β → β') (F : κ → Except Err β) (l : List κ) :
    tagOk (fun k => (F k).map p) l = (tagOk F l).map (List.map fun kv => (kv.1, p kv.2)) :=
  allOk_map_hom l _ _ _ fun k _ => by
    show ((F k).map p).map (Prod.mk k) = _
    cases F k <;> rfl

theorem deltaConformity_eq (dg : Graph) (start delta : Int) (alphas : List Nat) (ptype : Nat) :
    dg.deltaConformity start delta alphas ptype = confWindow dg start delta (fun g sp =>
      .ok (some (alphas.map (fun a => (a, (g.nodesAt (some start)).map (fun u => (u, nodeScore g sp ptype a u))))))) := rfl

theorem deltaConformityW_eq (dg : Graph) (start delta : Int) (alphas : List (Nat × (Nat → Rat))) (ptype : Nat) :
    dg.deltaConformityW start delta alphas ptype = confWindow dg start delta (fun g sp =>
      .ok (some (alphas.map (fun a => (a.1, (g.nodesAt (some start)).map (fun u => (u, nodeScoreW g sp ptype a.2 u))))))) := rfl

theorem deltaConformityP_eq (dg : Graph) (tab : LabelTable) (start delta : Int) (alphas labels : List Nat)
    (profileSize ptype : Nat) :
    dg.deltaConformityP tab start delta alphas labels profileSize ptype =
      if profileSize > labels.length then .error .value
      else if alphas.length < 1 || labels.length < 1 then .error .value
      else confWindow dg start delta (fun g sp =>
        .ok (some (alphas.map (fun a => (a, (profilesOf labels profileSize).map (fun pr =>
          (pr, (g.nodesAt (some start)).map (fun u => (u, nodeScoreP g tab pr sp ptype a u))))))))) := rfl

/- The model writes `Except.map (k, ·)` out as a `match`, at three types.  A `match` elaborated in this module is a
   matcher constant of its own: `rfl` identifies it with the model's matcher of the same shape, `simp`/`rw` do not.
   Hence `deltaConformityH_eq` rewrites its own `tagOk`s backwards with these three lemmas and closes by `rfl`. -/
theorem tagOk_nodes (F : Node → Except Err Rat) (l : List Node) :
    allOk (l.map fun u => match F u with
      | .error e => .error e
      | .ok x => (.ok (u, x) : Except Err (Node × Rat))) = tagOk F l :=
  congrArg allOk (List.map_congr_left fun u _ => by cases F u <;> rfl)

theorem tagOk_profiles (F : List Nat → Except Err (List (Node × Rat))) (l : List (List Nat)) :
    allOk (l.map fun pr => match F pr with
      | .error e => .error e
      | .ok sc => (.ok (pr, sc) : Except Err (List Nat × List (Node × Rat)))) = tagOk F l :=
  congrArg allOk (List.map_congr_left fun pr _ => by cases F pr <;> rfl)

theorem tagOk_alphas (F : Nat → Except Err (List (List Nat × List (Node × Rat)))) (l : List Nat) :
    allOk (l.map fun a => match F a with
      | .error e => .error e
      | .ok prs => (.ok (a, prs) : Except Err (Nat × List (List Nat × List (Node × Rat))))) = tagOk F l :=
  congrArg allOk (List.map_congr_left fun a _ => by cases F a <;> rfl)

theorem deltaConformityH_eq (dg : Graph) (tab : LabelTableH) (hier : Hierarchies) (start delta : Int)
    (alphas labels : List Nat) (profileSize ptype : Nat) :
    dg.deltaConformityH tab hier start delta alphas labels profileSize ptype =
      if profileSize > labels.length then .error .value
      else if alphas.length < 1 || labels.length < 1 then .error .value
      else confWindow dg start delta (fun g sp =>
        match tagOk (fun a => tagOk (fun pr => tagOk (fun u => nodeScoreH g tab hier pr sp ptype a start u)
            (g.nodesAt (some start))) (profilesOf labels profileSize)) alphas with
        | .error e => .error e
        | .ok r => .ok (some r)) := by
  simp only [← tagOk_nodes, ← tagOk_profiles, ← tagOk_alphas]
  rfl

section
variable {β : Type} {dg : Graph} {start delta : Int} {k : Graph → c13_Res → Except Err (Option β)}

theorem confWindow_ok {r : Option β} (h : confWindow dg start delta k = .ok r) :
    ∃ g, dg.timeSlice start (some (start + delta)) = .ok g ∧
      ((g.ids = [] ∧ r = none) ∨ (g.ids ≠ [] ∧ ∃ sp, k g sp = .ok r)) := by
  unfold confWindow at h
  cases hs : dg.timeSlice start (some (start + delta)) with
  | error e => rw [hs] at h; cases h
  | ok g =>
    rw [hs] at h
    refine ⟨g, rfl, ?_⟩
    by_cases hid : g.ids = []
    · simp only [hid, minList] at h
      cases h
      exact Or.inl ⟨hid, rfl⟩
    · obtain ⟨lo, hlo⟩ := Option.ne_none_iff_exists'.1 (mt minList_eq_none.1 hid)
      obtain ⟨hi, hhi⟩ := Option.ne_none_iff_exists'.1 (mt maxList_eq_none.1 hid)
      simp only [hlo, hhi] at h
      split at h
      · cases h
      · next sp _ => exact Or.inr ⟨hid, sp, h⟩

theorem confWindow_some {r : β} (h : confWindow dg start delta k = .ok (some r)) :
    ∃ g sp, dg.timeSlice start (some (start + delta)) = .ok g ∧ g.ids ≠ [] ∧ k g sp = .ok (some r) := by
  obtain ⟨g, hs, ⟨_, hr⟩ | ⟨hid, sp, hk⟩⟩ := confWindow_ok h
  · cases hr
  · exact ⟨g, sp, hs, hid, hk⟩

end

/-- `Q` is `Except.map (Option.map q)` for renaming nodes, `id` for relabelling values.  When slicing, the snapshot ids
    and the path enumeration commute with `T`/`S`, it is enough that the body does, on the slice and its paths -/
theorem confWindow_transport {β γ : Type} (T : Graph → Graph) (S : c13_Res → c13_Res)
    (Q : Except Err (Option β) → Except Err (Option γ)) (hQe : ∀ e, Q (.error e) = .error e) (hQn : Q (.ok none) = .ok none)
    (dg : Graph) (start delta : Int)
    (k : Graph → c13_Res → Except Err (Option β)) (k' : Graph → c13_Res → Except Err (Option γ))
    (hts : (T dg).timeSlice start (some (start + delta)) = (dg.timeSlice start (some (start + delta))).map T)
    (hids : ∀ g, (T g).ids = g.ids)
    (hsp : ∀ g s e, (T g).allTimeRespectingPaths s e none = (g.allTimeRespectingPaths s e none).map S)
    (hk : ∀ g, dg.timeSlice start (some (start + delta)) = .ok g → ∀ s e sp,
      g.allTimeRespectingPaths s e none = .ok sp → k' (T g) (S sp) = Q (k g sp)) :
    confWindow (T dg) start delta k' = Q (confWindow dg start delta k) := by
  unfold confWindow
  rw [hts]
  cases hg : dg.timeSlice start (some (start + delta)) with
  | error e => exact (hQe e).symm
  | ok g =>
    simp only [Except.map, hids]
    cases minList g.ids with
    | none => exact hQn.symm
    | some mmid =>
      cases maxList g.ids with
      | none => exact hQn.symm
      | some mid =>
        simp only [hsp]
        cases hp : g.allTimeRespectingPaths (some (max start mmid)) (some (min mid (start + delta))) none with
        | error e => exact (hQe e).symm
        | ok sp => exact hk g hg _ _ sp hp

end Dynetx
