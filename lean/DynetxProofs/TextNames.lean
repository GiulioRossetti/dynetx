import DynetxProofs.TextDigits
/-
  C09 / C10 at text level for ARBITRARY node types: `name n` is what the writer prints for node `n` (`str(n)`), `dec`
  what the reader's `nodetype` makes of a field.
-/
namespace Dynetx

open List

/-- the property's "matching nodetype / delimiter", made explicit -/
structure NameOK (cm : Char) (delim : Option Char) (name : Node → List Char) (dec : List Char → Option Node) : Prop where
  dec_name : ∀ n, dec (name n) = some n
  ne : ∀ n, name n ≠ []
  ws : ∀ n, ∀ c ∈ name n, isWs c = false
  nocm : ∀ n, cm ∉ name n
  nodelim : ∀ d, delim = some d → ∀ n, d ∉ name n

theorem txt_ws_not_num {d : Char} (h : isWs d = true) : d.isDigit = false ∧ d ≠ '-' ∧ d ≠ '+' :=
  ⟨Bool.eq_false_iff.mpr fun hd => Bool.noConfusion ((txt_isDigit_not_ws d hd).symm.trans h),
    fun e => absurd (e ▸ h) (by decide), fun e => absurd (e ▸ h) (by decide)⟩

section
variable {cm d : Char} {delim : Option Char} {name : Node → List Char} {dec : List Char → Option Node}

theorem FieldOK.nat (hcm : cm.isDigit = false) (hd : d.isDigit = false) (n : Node) : FieldOK cm d (natDigits n) :=
  ⟨txt_natDigits_ne_nil n, txt_natDigits_not_ws n, txt_natDigits_nomem hcm n, txt_natDigits_nomem hd n⟩

theorem FieldOK.int (hcm : cm.isDigit = false ∧ cm ≠ '-') (hd : d.isDigit = false ∧ d ≠ '-') (t : Int) :
    FieldOK cm d (intDigits t) :=
  ⟨txt_intDigits_ne_nil t, txt_intDigits_not_ws t, txt_intDigits_nomem hcm.1 hcm.2 t, txt_intDigits_nomem hd.1 hd.2 t⟩

theorem FieldOK.op (hcm : cm ≠ '-' ∧ cm ≠ '+') (hd : d ≠ '-' ∧ d ≠ '+') (plus : Bool) :
    FieldOK cm d [if plus then '+' else '-'] := by
  have one : ∀ c, isWs c = false → cm ≠ c → d ≠ c → FieldOK cm d [c] := fun c hw h1 h2 =>
    ⟨cons_ne_nil _ _, fun x hx => mem_singleton.mp hx ▸ hw, fun h => h1 (mem_singleton.mp h), fun h => h2 (mem_singleton.mp h)⟩
  cases plus
  · exact one _ rfl hcm.1 hd.1
  · exact one _ rfl hcm.2 hd.2

theorem NameOK.field (h : NameOK cm delim name dec) (hr : Reads delim d) (n : Node) : FieldOK cm d (name n) :=
  ⟨h.ne n, h.ws n, h.nocm n, hr.elim (fun e => h.nodelim d e n)
    fun hw hm => Bool.noConfusion ((h.ws n d hm).symm.trans hw.2)⟩

theorem snapRowWith_join (h : NameOK cm delim name dec) (hr : Reads delim d) (hd : d.isDigit = false ∧ d ≠ '-')
    (hcm : cm.isDigit = false ∧ cm ≠ '-' ∧ cm ≠ d) (u v : Node) (t : Int) :
    snapRowWith dec cm delim (joinFields d [name u, name v, intDigits t]) = .row u v t none := by
  rw [snapRowWith_eq, fieldsOf_join hr (cons_ne_nil _ _) (by
    simp only [forall_mem_cons]
    exact ⟨h.field hr u, h.field hr v, FieldOK.int ⟨hcm.1, hcm.2.1⟩ hd t, forall_mem_nil _⟩) hcm.2.2]
  exact snapOfFields_row (h.dec_name u) (h.dec_name v) (Text_int_roundtrip t)

/-- the operation field is `+` or `-`, so neither may be the delimiter or the comment marker -/
theorem intRowWith_join (h : NameOK cm delim name dec) (hr : Reads delim d)
    (hd : d.isDigit = false ∧ d ≠ '-' ∧ d ≠ '+') (hcm : cm.isDigit = false ∧ cm ≠ '-' ∧ cm ≠ '+' ∧ cm ≠ d)
    (u v : Node) (plus : Bool) (t : Int) :
    intRowWith dec cm delim (joinFields d [name u, name v, [if plus then '+' else '-'], intDigits t])
      = .row { t := t, u := u, v := v, plus := plus } := by
  obtain ⟨ddig, dmin, dpl⟩ := hd
  obtain ⟨cdig, cmin, cpl, cd⟩ := hcm
  rw [intRowWith_eq, fieldsOf_join hr (cons_ne_nil _ _) (by
    simp only [forall_mem_cons]
    exact ⟨h.field hr u, h.field hr v, FieldOK.op ⟨cmin, cpl⟩ ⟨dmin, dpl⟩ plus,
      FieldOK.int ⟨cdig, cmin⟩ ⟨ddig, dmin⟩ t, forall_mem_nil _⟩) cd]
  exact intOfFields_row plus (h.dec_name u) (h.dec_name v) (Text_int_roundtrip t)

theorem parseSnapshotsTextWith_go_eq (dec : List Char → Option Node) (cm : Char) (delim : Option Char) (g : Graph)
    (lines : List (List Char)) :
    parseSnapshotsTextWith.go dec cm delim g lines
      = foldExit (lineStep addRow) g (lines.map fun l => (snapRowWith dec cm delim l).line) :=
  foldExit_unique (fun _ => rfl) (fun g l rest => by
    rw [parseSnapshotsTextWith.go]; cases snapRowWith dec cm delim l <;> rfl) g lines

theorem parseInteractionsTextWith_go_eq (dec : List Char → Option Node) (cm : Char) (delim : Option Char) (g : Graph)
    (lines : List (List Char)) :
    parseInteractionsTextWith.go dec cm delim g lines
      = foldExit (lineStep Graph.replayRow) g (lines.map fun l => (intRowWith dec cm delim l).line) :=
  foldExit_unique (fun _ => rfl) (fun g l rest => by
    rw [parseInteractionsTextWith.go]; cases intRowWith dec cm delim l <;> rfl) g lines

theorem parseSnapshotsText_eq_with (directed : Bool) (cm : Char) (delim : Option Char) (lines : List (List Char)) :
    parseSnapshotsText directed cm delim lines = parseSnapshotsTextWith nodeOf directed cm delim lines :=
  (parseSnapshotsText_go_eq ..).trans (parseSnapshotsTextWith_go_eq ..).symm

theorem parseInteractionsText_eq_with (directed : Bool) (cm : Char) (delim : Option Char) (lines : List (List Char)) :
    parseInteractionsText directed cm delim lines = parseInteractionsTextWith nodeOf directed cm delim lines :=
  (parseInteractionsText_go_eq ..).trans (parseInteractionsTextWith_go_eq ..).symm

theorem parseSnapshotsTextWith_lines (g : Graph) (h : NameOK cm delim name dec) (hr : Reads delim d)
    (hd : d.isDigit = false ∧ d ≠ '-') (hcm : cm.isDigit = false ∧ cm ≠ '-' ∧ cm ≠ d) :
    parseSnapshotsTextWith dec g.directed cm delim (g.snapshotLinesWith name d)
      = parseSnapshots g.directed (g.genSnapshots.map (fun r => (r.1, r.2.1, r.2.2, none))) := by
  unfold parseSnapshotsTextWith parseSnapshots Graph.snapshotLinesWith
  rw [parseSnapshotsTextWith_go_eq, addMany_eq]
  refine foldExit_written (fun r => ?_) ..
  exact congrArg RowS.line (snapRowWith_join h hr hd hcm r.1 r.2.1 r.2.2)

theorem parseInteractionsTextWith_lines (g : Graph) (h : NameOK cm delim name dec) (hr : Reads delim d)
    (hd : d.isDigit = false ∧ d ≠ '-' ∧ d ≠ '+') (hcm : cm.isDigit = false ∧ cm ≠ '-' ∧ cm ≠ '+' ∧ cm ≠ d) :
    parseInteractionsTextWith dec g.directed cm delim (g.interactionLinesWith name d)
      = parseInteractions g.directed g.genInteractions := by
  unfold parseInteractionsTextWith parseInteractions Graph.interactionLinesWith
  rw [parseInteractionsTextWith_go_eq, replayRows_eq]
  refine (foldExit_written (r := id) (fun r => ?_) ..).trans (congrArg _ (map_id _))
  exact congrArg RowI.line (intRowWith_join h hr hd hcm r.u r.v r.plus r.t)

end

section
variable {cm : Char} {name : Node → List Char} {dec : List Char → Option Node}

theorem TextN_snapRow (d : Char) (h : NameOK cm (some d) name dec) (u v : Node) (t : Int)
    (hd : d.isDigit = false ∧ d ≠ '-') (hcm : cm.isDigit = false ∧ cm ≠ '-' ∧ cm ≠ d) :
    snapRowWith dec cm (some d) (joinFields d [name u, name v, intDigits t]) = .row u v t none :=
  snapRowWith_join h (.inl rfl) hd hcm u v t

theorem TextN_intRow (d : Char) (h : NameOK cm (some d) name dec) (u v : Node) (plus : Bool) (t : Int)
    (hd : d.isDigit = false ∧ d ≠ '-' ∧ d ≠ '+') (hcm : cm.isDigit = false ∧ cm ≠ '-' ∧ cm ≠ '+' ∧ cm ≠ d) :
    intRowWith dec cm (some d) (joinFields d [name u, name v, [if plus then '+' else '-'], intDigits t])
      = .row { t := t, u := u, v := v, plus := plus } :=
  intRowWith_join h (.inl rfl) hd hcm u v plus t

/-- **C09 at text level, any node type**: the lines written by `generate_snapshots(G, d)` are read by
    `parse_snapshots(delimiter=d, nodetype=dec)` as the rows of `generate_snapshots` -/
theorem C09_textN_roundtrip (g : Graph) (d : Char) (h : NameOK cm (some d) name dec)
    (hd : d.isDigit = false ∧ d ≠ '-') (hcm : cm.isDigit = false ∧ cm ≠ '-' ∧ cm ≠ d) :
    parseSnapshotsTextWith dec g.directed cm (some d) (g.snapshotLinesWith name d)
      = parseSnapshots g.directed (g.genSnapshots.map (fun r => (r.1, r.2.1, r.2.2, none))) :=
  parseSnapshotsTextWith_lines g h (.inl rfl) hd hcm

/-- writer's default delimiter `' '`, reader's default `split()` -/
theorem C09_textN_roundtrip_default (g : Graph) (h : NameOK cm none name dec)
    (hcm : cm.isDigit = false ∧ cm ≠ '-' ∧ cm ≠ ' ') :
    parseSnapshotsTextWith dec g.directed cm none (g.snapshotLinesWith name ' ')
      = parseSnapshots g.directed (g.genSnapshots.map (fun r => (r.1, r.2.1, r.2.2, none))) :=
  parseSnapshotsTextWith_lines g h (.inr ⟨rfl, rfl⟩) (by decide) hcm

/-- **C10 at text level, any node type**: likewise for `generate_interactions(G, d)` and
    `parse_interactions(delimiter=d, nodetype=dec)` -/
theorem C10_textN_roundtrip (g : Graph) (d : Char) (h : NameOK cm (some d) name dec)
    (hd : d.isDigit = false ∧ d ≠ '-' ∧ d ≠ '+') (hcm : cm.isDigit = false ∧ cm ≠ '-' ∧ cm ≠ '+' ∧ cm ≠ d) :
    parseInteractionsTextWith dec g.directed cm (some d) (g.interactionLinesWith name d)
      = parseInteractions g.directed g.genInteractions :=
  parseInteractionsTextWith_lines g h (.inl rfl) hd hcm

theorem C10_textN_roundtrip_default (g : Graph) (h : NameOK cm none name dec)
    (hcm : cm.isDigit = false ∧ cm ≠ '-' ∧ cm ≠ '+' ∧ cm ≠ ' ') :
    parseInteractionsTextWith dec g.directed cm none (g.interactionLinesWith name ' ')
      = parseInteractions g.directed g.genInteractions :=
  parseInteractionsTextWith_lines g h (.inr ⟨rfl, rfl⟩) (by decide) hcm

end

/-- the integer ids of `TextRoundtrip.lean`: decimal names, `int` as node type -/
theorem TextN_nat_instance (cm : Char) (delim : Option Char) (hcm : cm.isDigit = false)
    (hd : ∀ d, delim = some d → d.isDigit = false) : NameOK cm delim natDigits nodeOf where
  dec_name := Text_nat_roundtrip
  ne := txt_natDigits_ne_nil
  ws := txt_natDigits_not_ws
  nocm := txt_natDigits_nomem hcm
  nodelim := fun d hdd => txt_natDigits_nomem (hd d hdd)

end Dynetx
