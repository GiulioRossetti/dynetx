import DynetxProofs.TextDigits
import DynetxModel.PathsText
/-
  C12 / C13 / C15, text level: the DAG node names `f"{node}_{tid}"` built by `temporal_dag` are decoded by
  `time_respecting_paths` (`split("_")`, last part = time, the others re-joined) into exactly the node name and
  the time they were built from — for EVERY node name, including names that contain '_' themselves, because the
  decimal rendering of an integer time contains no '_'.  This is what justifies modelling occurrences as pairs
  `(node, time)` in `Paths.lean`.
-/
namespace Dynetx

theorem c12t_join_split (d : Char) (l : List Char) : joinFields d (splitOnChar d l) = l := by
  rw [splitOnChar_eq_splitOn, txt_joinFields_eq, c18t_join_eq, List.intercalate_splitOn]

theorem c12t_split_append (d : Char) (name ds : List Char) (hds : d ∉ ds) :
    splitOnChar d (name ++ d :: ds) = splitOnChar d name ++ [ds] := by
  rw [splitOnChar_eq_splitOn, splitOnChar_eq_splitOn, List.splitOn_append_cons_self, List.splitOn_eq_singleton hds]

/-- the two-part case of `occDecode` is the general case: `"_".join([a]) = a` -/
theorem c12t_occDecode_eq (s : List Char) :
    occDecode s = (joinFields '_' (splitOnChar '_' s).dropLast, (splitOnChar '_' s).getLast?.getD []) := by
  unfold occDecode
  split
  · next h => rw [h]; rfl
  · rfl

/-- **decode ∘ encode = id on occurrence names**, for every node name (possibly containing '_', possibly empty)
    and every integer time -/
theorem C12_text_occ_roundtrip (name : List Char) (t : Int) :
    occDecode (occName name t) = (name, intDigits t) := by
  rw [c12t_occDecode_eq, occName, c12t_split_append '_' name _ (txt_intDigits_nomem (by decide) (by decide) t),
    List.dropLast_concat, List.getLast?_concat, c12t_join_split]
  rfl

/-- the typed decoding of one hop: integer node ids and integer times come back exactly -/
theorem C12_text_hop_roundtrip (a b : Node) (s t : Int) :
    hopDecode (occName (natDigits a) s) (occName (natDigits b) t) = some (a, b, t) := by
  unfold hopDecode
  simp only [C12_text_occ_roundtrip, Text_nat_roundtrip, Text_int_roundtrip]

/-- the encoding of an occurrence `(node, time)` with an integer node id -/
def occEnc (o : Occ) : List Char := occName (natDigits o.1) o.2

/-- **the string pipeline equals the pair pipeline**: decoding the names of a DAG path gives `hopsOf` of the
    path of pairs (the function `Paths.lean` uses) -/
theorem C12_text_hops (p : List Occ) : hopsOfNames (p.map occEnc) = some (hopsOf p) := by
  induction p using consec_induction with
  | nil => rfl
  | single => rfl
  | cons2 a b rest ih =>
    simp only [List.map_cons] at ih ⊢
    unfold hopsOfNames
    rw [ih]
    simp only [occEnc, C12_text_hop_roundtrip, hopsOf]

/-- occurrence names are injective in (name, time): distinct occurrences never share a DAG node -/
theorem C12_text_occ_injective (n1 n2 : List Char) (t1 t2 : Int) (h : occName n1 t1 = occName n2 t2) :
    n1 = n2 ∧ t1 = t2 := by
  have h1 := C12_text_occ_roundtrip n1 t1
  rw [h, C12_text_occ_roundtrip] at h1
  simp only [Prod.mk.injEq] at h1
  refine ⟨h1.1.symm, ?_⟩
  have := Text_int_roundtrip t1
  rw [← h1.2, Text_int_roundtrip] at this
  exact (Option.some.inj this).symm

/-- why the fix of finding D26 was needed: taking `split("_")[0]` (the code before the repair) instead of the
    re-joined prefix loses part of a name that contains '_' -/
theorem C12_text_D26_witness :
    (splitOnChar '_' (occName ['a', '_', '1'] 3)).head? = some ['a'] ∧
    occDecode (occName ['a', '_', '1'] 3) = (['a', '_', '1'], ['3']) := by
  have h3 : intDigits 3 = ['3'] := by simp only [intDigits, natDigits_eq]; rfl
  refine ⟨?_, ?_⟩
  · unfold occName
    rw [h3]
    simp [splitOnChar]
  · rw [C12_text_occ_roundtrip, h3]

end Dynetx
