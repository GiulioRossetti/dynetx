import DynetxProofs.Lemmas.Folds
import DynetxProofs.Lemmas.History
/-
  C02, node level: `neighbors`, `predecessors`, the degrees, `nodes(t)`, `has_node`, `all_neighbors`, `non_neighbors`,
  `is_empty`, `get_node_snapshots` project the presence relation `has_interaction`.
-/
namespace Dynetx

/-- the adjacency only mentions keys of `_node` (`add_interaction` makes both end points nodes before it stores the
    pair), and `_node`, a dict, holds no key twice -/
structure NodeInv (g : Graph) : Prop where
  endpoints : ∀ e ∈ g.edges, g.hasNodeFlat e.u = true ∧ g.hasNodeFlat e.v = true
  nodup : (g.nodes.map (·.1)).Nodup

theorem q1_any_iff (ns : List (Node × Nat)) (n : Node) :
    ns.any (fun p => p.1 == n) = true ↔ n ∈ ns.map (·.1) := by
  simp only [List.any_eq_true, List.mem_map, beq_iff_eq]

theorem q1_hasNodeFlat_iff (g : Graph) (n : Node) : g.hasNodeFlat n = true ↔ n ∈ g.nodeList :=
  q1_any_iff g.nodes n

theorem q1_ensureNode_names (ns : List (Node × Nat)) (n : Node) :
    (ensureNode ns n).map (·.1) = insertNew (ns.map (·.1)) n := by
  have : ensureNode ns n = upsert ns n id 0 := by
    unfold ensureNode upsert
    simp only [id, ite_self, List.map_id']
  rw [this]
  exact upsert_keys (fun _ h => h) ns 0

theorem q1_ensureNode_mem (ns : List (Node × Nat)) (n m : Node) :
    m ∈ (ensureNode ns n).map (·.1) ↔ m ∈ ns.map (·.1) ∨ m = n := by
  rw [q1_ensureNode_names]; exact mem_insertNew

theorem q1_ensureNode_nodup (ns : List (Node × Nat)) (n : Node) (h : (ns.map (·.1)).Nodup) :
    ((ensureNode ns n).map (·.1)).Nodup := by
  rw [q1_ensureNode_names]; exact nodup_insertNew h

theorem NodeInv.empty (d r : Bool) : NodeInv (Graph.empty d r) :=
  ⟨List.forall_mem_nil _, List.nodup_nil⟩

theorem NodeInv.ensure {g g' : Graph} (h : NodeInv g) (n : Node)
    (hn : g'.nodes.map (·.1) = (ensureNode g.nodes n).map (·.1))
    (he : ∀ e' ∈ g'.edges, ∃ e ∈ g.edges, e.u = e'.u ∧ e.v = e'.v) : NodeInv g' := by
  refine ⟨fun e' he' => ?_, by rw [hn]; exact q1_ensureNode_nodup _ _ h.nodup⟩
  obtain ⟨e, hem, hu, hv⟩ := he e' he'
  have := h.endpoints e hem
  simp only [q1_hasNodeFlat_iff, Graph.nodeList, hn, q1_ensureNode_mem, ← hu, ← hv] at this ⊢
  exact ⟨Or.inl this.1, Or.inl this.2⟩

theorem addInteraction_nodeInv {g : Graph} (h : NodeInv g) (u v : Node) (t e : Option Int) :
    NodeInv (g.addInteraction u v t e).1 := by
  have f := addInteraction_frame g u v t e
  generalize (g.addInteraction u v t e).1 = g' at f
  rcases f.shape with ⟨hn, he⟩ | ⟨hn, hE⟩
  · exact ⟨fun e' he' => by simpa only [Graph.hasNodeFlat, hn] using h.endpoints e' (he ▸ he'), hn ▸ h.nodup⟩
  · have mem : ∀ n, g'.hasNodeFlat n = true ↔ (g.hasNodeFlat n = true ∨ n = u) ∨ n = v := fun n => by
      simp only [q1_hasNodeFlat_iff, Graph.nodeList, hn, q1_ensureNode_mem]
    have old : ∀ e0 ∈ g.edges, g'.hasNodeFlat e0.u = true ∧ g'.hasNodeFlat e0.v = true := fun e0 h0 =>
      ⟨(mem _).2 (.inl (.inl (h.endpoints e0 h0).1)), (mem _).2 (.inl (.inl (h.endpoints e0 h0).2))⟩
    refine ⟨fun e' he' => ?_, hn ▸ q1_ensureNode_nodup _ _ (q1_ensureNode_nodup _ _ h.nodup)⟩
    rcases hE with ⟨_, tl, he⟩ | ⟨_, tl, _, he⟩
    · rcases List.mem_append.mp (he ▸ he') with he' | he'
      · exact old e' he'
      · rw [List.mem_singleton.mp he']
        exact ⟨(mem _).2 (.inl (.inr rfl)), (mem _).2 (.inr rfl)⟩
    · obtain ⟨e0, hem, hu, hv, _⟩ := mem_mapTl_proj.mp (he ▸ he')
      rw [hu, hv]; exact old e0 hem

theorem run_nodeInv (g : Graph) (h : NodeInv g) (ops : List Op) : NodeInv (g.run ops).1 :=
  run_induction ops h fun _ h _ _ _ _ => addInteraction_nodeInv h ..

theorem addNode_nodeInv {g : Graph} (h : NodeInv g) (n : Node) : NodeInv (g.addNode n) :=
  h.ensure n rfl fun e' he' => ⟨e', he', rfl, rfl⟩

theorem q1_setAttr_nodeList (g : Graph) (n : Node) (a : Nat) :
    (g.setAttr n a).nodes.map (·.1) = (ensureNode g.nodes n).map (·.1) := by
  rw [setAttr_upsert, q1_ensureNode_names]
  -- `n == n` on `Node` is `decide (n = n)`
  exact upsert_keys (fun _ _ => decide_eq_true rfl) _ _

theorem setAttr_nodeInv {g : Graph} (h : NodeInv g) (n : Node) (a : Nat) : NodeInv (g.setAttr n a) :=
  h.ensure n (q1_setAttr_nodeList g n a) fun e' he' => by
    obtain ⟨ns, hs⟩ := setAttr_frame g n a
    rw [hs] at he'
    exact ⟨e', he', rfl, rfl⟩

/-- no isolated node: true of what `add_interaction` calls alone build (one `add_node` of a fresh node breaks it) -/
def c06_NodesUsed (g : Graph) : Prop :=
  ∀ n, g.hasNodeFlat n = true → ∃ m, g.hasInteraction n m none = true ∨ g.hasInteraction m n none = true

/-- stored pairs stay stored, and the node table only grows by the endpoints of a pair that is stored afterwards -/
theorem c06_used_of_frame {g g' : Graph} {u v : Node} (h : c06_NodesUsed g) (f : AddFrame g u v g') :
    c06_NodesUsed g' := by
  have hold : ∀ a b, g.hasInteraction a b none = true → g'.hasInteraction a b none = true := by
    intro a b hab
    rw [hasInteraction_flat_iff] at hab ⊢
    obtain ⟨e, he, hk⟩ := hab
    rw [f.directed]
    rcases f.shape with ⟨_, hed⟩ | ⟨_, ⟨_, tl, hed⟩ | ⟨_, tl, _, hed⟩⟩
    · exact ⟨e, hed ▸ he, hk⟩
    · exact ⟨e, hed ▸ List.mem_append_left _ he, hk⟩
    · exact ⟨_, hed ▸ mem_mapTl.mpr ⟨e, he, rfl⟩, by split <;> exact hk⟩
  intro n hn
  have keep : g.hasNodeFlat n = true →
      ∃ m, g'.hasInteraction n m none = true ∨ g'.hasInteraction m n none = true :=
    fun h0 => (h n h0).imp fun m => Or.imp (hold n m) (hold m n)
  rcases f.shape with ⟨hnd, _⟩ | ⟨hnd, hed⟩
  · exact keep (by simpa only [Graph.hasNodeFlat, hnd] using hn)
  · have huv : g'.hasInteraction u v none = true := by
      rcases hed with ⟨_, tl, hed⟩ | ⟨ed, _, hf, _⟩
      · rw [hasInteraction_flat_iff, hed]
        exact ⟨_, List.mem_append_right _ (List.mem_singleton.mpr rfl), sameKey_refl _ _ _⟩
      · exact hold u v ((hasInteraction_flat_iff g u v).mpr ⟨ed, findEdge_some hf⟩)
    simp only [q1_hasNodeFlat_iff, Graph.nodeList, hnd, q1_ensureNode_mem] at hn
    rcases hn with (hn | rfl) | rfl
    · exact keep ((q1_hasNodeFlat_iff g n).mpr hn)
    · exact ⟨v, Or.inl huv⟩
    · exact ⟨u, Or.inr huv⟩

/-- the entry that the stored pair `(a, b)` contributes to the adjacency row of `n` -/
theorem q1_succEntry_iff (d : Bool) (a b n m : Node) :
    (if a == n then some b else if !d && b == n then some a else none) = some m ↔
      sameKey d a b n m = true := by
  rw [sameKey_iff]; grind

theorem q1_succs_iff_flat (g : Graph) (n m : Node) : m ∈ g.succs n ↔ g.hasInteraction n m none = true := by
  simp only [Graph.succs, List.mem_filterMap, q1_succEntry_iff, hasInteraction_flat_iff]

theorem q1_predEntry_iff (a b n m : Node) : (if b == n then some a else none) = some m ↔ a = m ∧ b = n := by
  rw [Option.ite_none_right_eq_some, beq_iff_eq, Option.some.injEq, and_comm]

theorem q1_mem_preds (g : Graph) (n m : Node) : m ∈ g.preds n ↔ ∃ e ∈ g.edges, e.u = m ∧ e.v = n := by
  simp only [Graph.preds, List.mem_filterMap, q1_predEntry_iff]

theorem q1_preds_iff_flat (g : Graph) (hd : g.directed = true) (n m : Node) :
    m ∈ g.preds n ↔ g.hasInteraction m n none = true := by
  simp only [q1_mem_preds, hasInteraction_flat_iff, hd, sameKey_directed_iff]

theorem q1_succs_nodup_of_keys {g : Graph} (hk : q1_Keys g) (n : Node) : (g.succs n).Nodup := by
  refine List.Pairwise.filterMap _ (fun e f hef b hb b' hb' hbb => ?_) hk
  subst hbb
  have := sameKey_trans ((q1_succEntry_iff ..).mp hb) (sameKey_symm .. ▸ (q1_succEntry_iff ..).mp hb')
  rw [hef] at this; cases this

theorem q1_preds_nodup_of_keys {g : Graph} (hk : q1_Keys g) (n : Node) : (g.preds n).Nodup := by
  refine List.Pairwise.filterMap _ (fun e f hef b hb b' hb' hbb => ?_) hk
  subst hbb
  obtain ⟨h1, h2⟩ := (q1_predEntry_iff ..).mp hb
  obtain ⟨h3, h4⟩ := (q1_predEntry_iff ..).mp hb'
  rw [h1, h2, h3, h4, sameKey_refl] at hef; cases hef

/-- `t = none` reads "ever added" -/
def q1_pres (g : Graph) (u v : Node) (t : Option Int) : Prop := g.hasInteraction u v t = true

theorem q1_has_some_flat (g : Graph) (a b : Node) (t : Option Int) :
    g.hasInteraction a b t = true → g.hasInteraction a b none = true := by
  unfold Graph.hasInteraction
  cases g.findEdge a b
  · exact id
  · exact fun _ => rfl

theorem q1_has_symm (g : Graph) (hd : g.directed = false) (a b : Node) (t : Option Int) :
    g.hasInteraction a b t = g.hasInteraction b a t :=
  hasInteraction_key ((sameKey_iff ..).mpr (.inr ⟨hd, rfl, rfl⟩)) t

theorem q1_row_present (g : Graph) (n m : Node) (t : Option Int) :
    (m ∈ g.succs n ∧ g.present n m t = true) ↔ g.hasInteraction n m t = true := by
  rw [q1_succs_iff_flat]
  cases t with
  | none => exact and_iff_left rfl
  | some x => exact ⟨fun h => h.2, fun h => ⟨q1_has_some_flat _ _ _ _ h, h⟩⟩

theorem q1_node_of_flat {g : Graph} (he : ∀ e ∈ g.edges, g.hasNodeFlat e.u = true ∧ g.hasNodeFlat e.v = true)
    {a b : Node} {t : Option Int} (h : g.hasInteraction a b t = true) :
    g.hasNodeFlat a = true ∧ g.hasNodeFlat b = true := by
  obtain ⟨e, hem, hk⟩ := (hasInteraction_flat_iff g a b).mp (q1_has_some_flat _ _ _ _ h)
  rcases (sameKey_iff ..).mp hk with ⟨rfl, rfl⟩ | ⟨_, rfl, rfl⟩
  · exact he e hem
  · exact (he e hem).symm

/-- `neighbors(n, t)` (`successors(n, t)` on directed graphs) lists exactly the `m` with
    `has_interaction(n, m, t)` -/
theorem C02_neighbors (g : Graph) (n m : Node) (t : Option Int) :
    m ∈ g.neighbors n t ↔ g.hasInteraction n m t = true := by
  rw [Graph.neighbors, List.mem_filter, q1_row_present]

theorem C02_neighbors_pres (g : Graph) (n m : Node) (t : Option Int) :
    m ∈ g.neighbors n t ↔ q1_pres g n m t := C02_neighbors g n m t

theorem q1_neighbors_nodup {g : Graph} (hk : q1_Keys g) (n : Node) (t : Option Int) :
    (g.neighbors n t).Nodup :=
  (q1_succs_nodup_of_keys hk n).filter _

theorem C02_neighbors_nodup {g : Graph} (h : WF g) (n : Node) (t : Option Int) :
    (g.neighbors n t).Nodup :=
  q1_neighbors_nodup h.keys n t

theorem C02_predecessors (g : Graph) (hd : g.directed = true) (n m : Node) (t : Option Int) :
    m ∈ g.predecessors n t ↔ g.hasInteraction m n t = true := by
  rw [Graph.predecessors, List.mem_filter, q1_preds_iff_flat g hd, ← q1_succs_iff_flat, q1_row_present]

theorem q1_predecessors_nodup {g : Graph} (hk : q1_Keys g) (n : Node) (t : Option Int) :
    (g.predecessors n t).Nodup :=
  (q1_preds_nodup_of_keys hk n).filter _

theorem C02_predecessors_nodup {g : Graph} (h : WF g) (n : Node) (t : Option Int) :
    (g.predecessors n t).Nodup :=
  q1_predecessors_nodup h.keys n t

theorem C02_outDegree (g : Graph) (n : Node) (t : Option Int) :
    g.outDegree n t = (g.neighbors n t).length := rfl

theorem C02_inDegree (g : Graph) (n : Node) (t : Option Int) :
    g.inDegree n t = (g.predecessors n t).length := rfl

/-- the number of distinct `m` present with `n`, said without finite sets: any duplicate-free enumeration of them -/
theorem q1_outDegree_card {g : Graph} (hk : q1_Keys g) (n : Node) (t : Option Int) (l : List Node)
    (hl : l.Nodup) (hm : ∀ m, m ∈ l ↔ g.hasInteraction n m t = true) : g.outDegree n t = l.length :=
  length_eq_of_nodup (q1_neighbors_nodup hk n t) hl fun m => by rw [C02_neighbors, hm]

theorem q1_inDegree_card {g : Graph} (hk : q1_Keys g) (hd : g.directed = true) (n : Node) (t : Option Int)
    (l : List Node) (hl : l.Nodup) (hm : ∀ m, m ∈ l ↔ g.hasInteraction m n t = true) :
    g.inDegree n t = l.length :=
  length_eq_of_nodup (q1_predecessors_nodup hk n t) hl fun m => by rw [C02_predecessors g hd, hm]

theorem q1_degree_card {g : Graph} (hk : q1_Keys g) {d : Bool} (hd : g.directed = d) (n : Node) (t : Option Int)
    (lo li : List Node) (hlo : lo.Nodup) (hli : li.Nodup) (hmo : ∀ m, m ∈ lo ↔ g.hasInteraction n m t = true)
    (hmi : ∀ m, m ∈ li ↔ g.hasInteraction m n t = true) :
    g.degree n t = if d then lo.length + li.length else lo.length := by
  subst hd
  rw [Graph.degree, q1_outDegree_card hk n t lo hlo hmo]
  cases hd : g.directed with
  | false => rfl
  | true => rw [q1_inDegree_card hk hd n t li hli hmi]

theorem C02_outDegree_card {g : Graph} (h : WF g) (n : Node) (t : Option Int) (l : List Node)
    (hl : l.Nodup) (hm : ∀ m, m ∈ l ↔ g.hasInteraction n m t = true) :
    g.outDegree n t = l.length :=
  q1_outDegree_card h.keys n t l hl hm

theorem C02_inDegree_card {g : Graph} (h : WF g) (hd : g.directed = true) (n : Node) (t : Option Int)
    (l : List Node) (hl : l.Nodup) (hm : ∀ m, m ∈ l ↔ g.hasInteraction m n t = true) :
    g.inDegree n t = l.length :=
  q1_inDegree_card h.keys hd n t l hl hm

theorem C02_degree_directed (g : Graph) (hd : g.directed = true) (n : Node) (t : Option Int) :
    g.degree n t = g.outDegree n t + g.inDegree n t := by
  rw [Graph.degree, hd, if_pos rfl]

theorem C02_degree_undirected (g : Graph) (hd : g.directed = false) (n : Node) (t : Option Int) :
    g.degree n t = (g.neighbors n t).length := by
  rw [Graph.degree, hd]; rfl

theorem q1_degree_pos_iff (g : Graph) (n : Node) (t : Option Int) :
    g.degree n t > 0 ↔ ∃ m, g.hasInteraction n m t = true ∨ g.hasInteraction m n t = true := by
  cases hd : g.directed with
  | true =>
    simp only [C02_degree_directed g hd, Graph.outDegree, Graph.inDegree, gt_iff_lt, Nat.add_pos_iff_pos_or_pos,
      List.length_pos_iff_exists_mem, C02_neighbors, C02_predecessors g hd, exists_or]
  | false =>
    simp only [C02_degree_undirected g hd, gt_iff_lt, List.length_pos_iff_exists_mem, C02_neighbors,
      q1_has_symm g hd _ n, or_self]

theorem C02_nodesAt (g : Graph) (n : Node) (x : Int) :
    n ∈ g.nodesAt (some x) ↔
      (g.hasNodeFlat n = true ∧
        ∃ m, g.hasInteraction n m (some x) = true ∨ g.hasInteraction m n (some x) = true) := by
  unfold Graph.nodesAt
  simp only [List.mem_filter, decide_eq_true_eq]
  rw [q1_hasNodeFlat_iff, q1_degree_pos_iff]

theorem C02_nodesAt_none (g : Graph) : g.nodesAt none = g.nodeList := rfl

/-- the node test of `C02_nodesAt` is implied by `NodeInv` -/
theorem C02_nodesAt_presence {g : Graph} (hn : NodeInv g) (n : Node) (x : Int) :
    n ∈ g.nodesAt (some x) ↔
      ∃ m, g.hasInteraction n m (some x) = true ∨ g.hasInteraction m n (some x) = true := by
  rw [C02_nodesAt, and_iff_right_of_imp]
  rintro ⟨m, h | h⟩
  · exact (q1_node_of_flat hn.endpoints h).1
  · exact (q1_node_of_flat hn.endpoints h).2

theorem C02_numberOfNodes (g : Graph) (t : Option Int) :
    g.numberOfNodes t = (g.nodesAt t).length := rfl

theorem C02_nodesAt_nodup {g : Graph} (hn : NodeInv g) (t : Option Int) : (g.nodesAt t).Nodup := by
  cases t with
  | none => exact hn.nodup
  | some x => exact List.Pairwise.filter _ hn.nodup

theorem q1_nodeList_iff {g : Graph} (hn : NodeInv g) (hu : c06_NodesUsed g) (n : Node) :
    n ∈ g.nodeList ↔ ∃ m, g.hasInteraction n m none = true ∨ g.hasInteraction m n none = true := by
  rw [← q1_hasNodeFlat_iff]
  exact ⟨hu n, fun h => h.elim fun m h => h.elim (fun h => (q1_node_of_flat hn.endpoints h).1)
    fun h => (q1_node_of_flat hn.endpoints h).2⟩

/-- `number_of_nodes(t)` is the number of distinct nodes with an interaction at `t` -/
theorem C02_numberOfNodes_card {g : Graph} (hn : NodeInv g) (x : Int) (l : List Node) (hl : l.Nodup)
    (hm : ∀ n, n ∈ l ↔
      ∃ m, g.hasInteraction n m (some x) = true ∨ g.hasInteraction m n (some x) = true) :
    g.numberOfNodes (some x) = l.length :=
  length_eq_of_nodup (C02_nodesAt_nodup hn _) hl fun n => by rw [C02_nodesAt_presence hn, hm]

theorem C02_hasNode (g : Graph) (n : Node) (x : Int) :
    g.hasNode n (some x) = true ↔ n ∈ g.nodesAt (some x) := by
  unfold Graph.hasNode Graph.nodesAt
  simp only [List.mem_filter, Bool.and_eq_true, q1_hasNodeFlat_iff]

theorem C02_hasNode_none (g : Graph) (n : Node) :
    g.hasNode n none = true ↔ n ∈ g.nodeList := q1_hasNodeFlat_iff g n

theorem C02_hasNode_presence {g : Graph} (hn : NodeInv g) (n : Node) (x : Int) :
    g.hasNode n (some x) = true ↔
      ∃ m, g.hasInteraction n m (some x) = true ∨ g.hasInteraction m n (some x) = true := by
  rw [C02_hasNode, C02_nodesAt_presence hn]

theorem C02_numberOfInteractions2 (g : Graph) (u v : Node) (t : Option Int) :
    g.numberOfInteractions2 u v t = if g.hasInteraction u v t then 1 else 0 := rfl

theorem C02_allNeighbors (g : Graph) (n m : Node) (t : Option Int) :
    m ∈ g.allNeighbors n t ↔ (g.hasInteraction m n t = true ∨ g.hasInteraction n m t = true) := by
  unfold Graph.allNeighbors
  cases hd : g.directed with
  | true => rw [if_pos rfl, List.mem_append, C02_predecessors g hd, C02_neighbors]
  | false => rw [if_neg Bool.false_ne_true, C02_neighbors, q1_has_symm g hd m n, or_self]

theorem q1_not_mem_allNeighbors (g : Graph) (n m : Node) (t : Option Int) :
    m ∉ g.allNeighbors n t ↔ g.hasInteraction m n t = false ∧ g.hasInteraction n m t = false := by
  rw [C02_allNeighbors, not_or, Bool.not_eq_true, Bool.not_eq_true]

theorem C02_nonNeighbors (g : Graph) (n m : Node) (t : Option Int) :
    m ∈ g.nonNeighbors n t ↔ (m ∈ g.nodeList ∧ m ≠ n ∧ ¬ (m ∈ g.allNeighbors n t)) := by
  rw [Graph.nonNeighbors, List.mem_filter, Bool.and_eq_true, bne_iff_ne, Bool.not_eq_true', List.contains_eq_mem,
    decide_eq_false_iff_not]

theorem C02_nonNeighbors_presence (g : Graph) (n m : Node) (t : Option Int) :
    m ∈ g.nonNeighbors n t ↔
      (m ∈ g.nodeList ∧ m ≠ n ∧ g.hasInteraction m n t = false ∧ g.hasInteraction n m t = false) := by
  rw [C02_nonNeighbors, q1_not_mem_allNeighbors]

theorem C02_isEmpty (g : Graph) :
    g.isEmpty = true ↔ ∀ a b, g.hasInteraction a b none = false := by
  rw [Graph.isEmpty, List.isEmpty_iff]
  constructor
  · intro h a b
    rw [← Bool.not_eq_true, hasInteraction_flat_iff, h]
    exact fun h' => h'.elim fun _ h' => List.not_mem_nil h'.1
  · exact fun h => List.eq_nil_iff_forall_not_mem.mpr fun e he => Bool.false_ne_true
      ((h e.u e.v).symm.trans ((hasInteraction_flat_iff g e.u e.v).mpr ⟨e, he, sameKey_refl ..⟩))

theorem C02_nodeSnapshots (g : Graph) (n : Node) (x : Int) :
    x ∈ g.nodeSnapshots n ↔ (x ∈ g.ids ∧ g.hasNode n (some x) = true) := by
  unfold Graph.nodeSnapshots
  rw [List.mem_filter]

theorem q1_run_nodeInv (d r : Bool) (ops : List Op) : NodeInv ((Graph.empty d r).run ops).1 :=
  run_nodeInv _ (NodeInv.empty d r) ops

theorem q1_run_keys (d r : Bool) (ops : List Op) : q1_Keys ((Graph.empty d r).run ops).1 :=
  run_keys List.Pairwise.nil ops

theorem q1_run_nodesUsed (d r : Bool) (ops : List Op) : c06_NodesUsed ((Graph.empty d r).run ops).1 :=
  run_induction ops (fun _ hn => absurd hn Bool.false_ne_true)
    fun g h _ _ _ _ => c06_used_of_frame h (addInteraction_frame g ..)

theorem C02_history_neighbors (d : Bool) (ops : List Op) (n m : Node) (t : Option Int) :
    let g := ((Graph.empty d true).run ops).1
    m ∈ g.neighbors n t ↔ g.hasInteraction n m t = true := by
  intro g; exact C02_neighbors g n m t

theorem C02_history_neighbors_nodup (d : Bool) (ops : List Op) (n : Node) (t : Option Int) :
    let g := ((Graph.empty d true).run ops).1
    (g.neighbors n t).Nodup := by
  intro g; exact q1_neighbors_nodup (q1_run_keys d true ops) n t

/-- end to end: the neighbours of `n` at `x` are the `m` for which some accepted call covers `x` -/
theorem C02_history_neighbors_log (d : Bool) (ops : List Op) (n m : Node) (x : Int) :
    m ∈ ((Graph.empty d true).run ops).1.neighbors n (some x) ↔
      inLog d ((Graph.empty d true).runLog ops) n m x := by
  rw [C02_neighbors, presence_history]

theorem C02_history_predecessors (ops : List Op) (n m : Node) (t : Option Int) :
    let g := ((Graph.empty true true).run ops).1
    m ∈ g.predecessors n t ↔ g.hasInteraction m n t = true := by
  intro g; exact C02_predecessors g (run_directed _ ops) n m t

theorem C02_history_predecessors_nodup (ops : List Op) (n : Node) (t : Option Int) :
    let g := ((Graph.empty true true).run ops).1
    (g.predecessors n t).Nodup := by
  intro g; exact q1_predecessors_nodup (q1_run_keys true true ops) n t

theorem C02_history_nodesAt (d : Bool) (ops : List Op) (n : Node) (x : Int) :
    let g := ((Graph.empty d true).run ops).1
    n ∈ g.nodesAt (some x) ↔
      ∃ m, g.hasInteraction n m (some x) = true ∨ g.hasInteraction m n (some x) = true := by
  intro g; exact C02_nodesAt_presence (q1_run_nodeInv d true ops) n x

theorem C02_history_nodesAt_nodup (d : Bool) (ops : List Op) (t : Option Int) :
    let g := ((Graph.empty d true).run ops).1
    (g.nodesAt t).Nodup := by
  intro g; exact C02_nodesAt_nodup (q1_run_nodeInv d true ops) t

theorem C02_history_hasNode (d : Bool) (ops : List Op) (n : Node) (x : Int) :
    let g := ((Graph.empty d true).run ops).1
    g.hasNode n (some x) = true ↔
      ∃ m, g.hasInteraction n m (some x) = true ∨ g.hasInteraction m n (some x) = true := by
  intro g; exact C02_hasNode_presence (q1_run_nodeInv d true ops) n x

theorem C02_history_allNeighbors (d : Bool) (ops : List Op) (n m : Node) (t : Option Int) :
    let g := ((Graph.empty d true).run ops).1
    m ∈ g.allNeighbors n t ↔ (g.hasInteraction m n t = true ∨ g.hasInteraction n m t = true) := by
  intro g; exact C02_allNeighbors g n m t

theorem C02_history_nonNeighbors (d : Bool) (ops : List Op) (n m : Node) (t : Option Int) :
    let g := ((Graph.empty d true).run ops).1
    m ∈ g.nonNeighbors n t ↔
      (m ∈ g.nodeList ∧ m ≠ n ∧ g.hasInteraction m n t = false ∧ g.hasInteraction n m t = false) := by
  intro g; exact C02_nonNeighbors_presence g n m t

theorem C02_history_nodup_anymode (d r : Bool) (ops : List Op) (n : Node) (t : Option Int) :
    let g := ((Graph.empty d r).run ops).1
    (g.neighbors n t).Nodup ∧ (g.predecessors n t).Nodup ∧ (g.nodesAt t).Nodup := by
  intro g
  exact ⟨q1_neighbors_nodup (q1_run_keys d r ops) n t, q1_predecessors_nodup (q1_run_keys d r ops) n t,
    C02_nodesAt_nodup (q1_run_nodeInv d r ops) t⟩

/-- `1–2` on `[3,5]`, `1–3` at `7`, undirected -/
def q1_demo : Graph :=
  ((Graph.empty false true).run [Op.add 1 2 (some 3) (some 6), Op.add 3 1 (some 7) none]).1

example : q1_demo.neighbors 1 (some 4) = [2] ∧ q1_demo.neighbors 1 (some 6) = [] ∧
    q1_demo.neighbors 1 (some 7) = [3] ∧ q1_demo.neighbors 1 none = [2, 3] ∧
    q1_demo.hasInteraction 1 2 (some 4) = true ∧ q1_demo.hasInteraction 1 2 (some 6) = false := by
  decide

example : q1_demo.nodesAt (some 4) = [1, 2] ∧ q1_demo.nodesAt (some 7) = [1, 3] ∧
    q1_demo.nodesAt none = [1, 2, 3] ∧ q1_demo.hasNode 2 (some 7) = false ∧
    q1_demo.nonNeighbors 1 (some 4) = [3] ∧ q1_demo.degree 1 none = 2 := by
  decide

/-- directed: `1→2` on `[3,5]`, `3→1` at `4` -/
def q1_demoD : Graph :=
  ((Graph.empty true true).run [Op.add 1 2 (some 3) (some 6), Op.add 3 1 (some 4) none]).1

example : q1_demoD.neighbors 1 (some 4) = [2] ∧ q1_demoD.predecessors 1 (some 4) = [3] ∧
    q1_demoD.predecessors 1 (some 5) = [] ∧ q1_demoD.allNeighbors 1 (some 4) = [3, 2] ∧
    q1_demoD.degree 1 (some 4) = 2 ∧ q1_demoD.degree 1 (some 5) = 1 := by
  decide

end Dynetx
