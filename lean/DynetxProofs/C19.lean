import DynetxModel.Generated.ApiTable
/-
  C19: theorems over the API table that harness/props_api.py regenerates, on every run, from the installed
  networkx and the current /repo: one `Row` per class (or "function") and public name, and one with `frozen := true` per
  mutator called on a frozen graph.  Static columns: `inherited` / `overridden` / `decorated` (with @not_implemented),
  `listed` (among the names the property says are blocked), `timed` (one of the five timed dynetx mutators).  Observed
  columns, Booleans so that the table does not depend on the seed: `probed` (some probe call was made), `allRaised` /
  `allNxni` (every probe call raised / raised NetworkXNotImplemented), `inconsistent` (the state was inconsistent after some
  probe call); and `effect`, the strongest effect seen (0 none, 1 node set / attributes only, 2 interactions, timelines,
  snapshots or stream).
  The quantifier is finite (the rows of the table), so `decide` is a proof; what an inherited networkx
  method really does is observed by the probe, not proved.
-/
namespace Dynetx.Api

/-- the only entry points that may change interactions: the timed dynetx API, and clear / clear_edges
    (which reset the whole temporal state) -/
def mayMutate : List String :=
  ["add_interaction", "add_interactions_from", "add_path", "add_star", "add_cycle", "clear", "clear_edges"]

/-- known finding D23 (test_functions_directed calls `add_interaction` after `freeze`): the timed mutators are not frozen.  These are the names of the
    rows with `timed := true`; the theorems go by the name lists here and in `mayMutate`, none reads the column -/
def knownNotFrozen : List String :=
  ["add_interaction", "add_interactions_from", "add_path", "add_star", "add_cycle"]

/-- every listed (blocked) entry point that exists raised NetworkXNotImplemented in every probe call and
    never touched interactions, timelines, snapshots or the stream -/
theorem C19_blocked :
    table.all (fun r => !r.listed || r.frozen || (r.probed && r.allNxni && decide (r.effect ≤ 1))) = true := by
  decide +kernel

/-- a listed entry point is blocked in the source: it carries the decorator, or it is inherited unchanged
    and reaches a decorated one (add_weighted_edges_from, update -> add_edges_from) -/
theorem C19_blocked_static :
    table.all (fun r => !r.listed || r.frozen || r.decorated || !r.overridden) = true := by
  decide +kernel

/-- no probe call through any public entry point left an adjacency entry without a timeline, succ/pred
    out of step, or the stream out of step with presence -/
theorem C19_consistent : table.all (fun r => !r.inconsistent) = true := by
  decide +kernel

/-- only the timed dynetx API (and clear / clear_edges) changes interactions on an unfrozen graph -/
theorem C19_only_timed_mutate :
    table.all (fun r => r.frozen || decide (r.effect ≤ 1) || mayMutate.contains r.name) = true := by
  decide +kernel

/-- on a frozen graph every mutator raised and changed nothing, except the known finding D23 -/
theorem C19_frozen_partial :
    table.all (fun r => !r.frozen || (r.allRaised && r.effect == 0) || knownNotFrozen.contains r.name) = true := by
  decide +kernel

/-- the table is not vacuous: the blocked names of both classes and the frozen rows are there -/
theorem C19_nonvacuous :
    (table.filter (fun r => r.listed && !r.frozen)).length ≥ 20 ∧ (table.filter (fun r => r.frozen)).length ≥ 10 := by
  decide +kernel

end Dynetx.Api
