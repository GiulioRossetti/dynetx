import DynetxProofs.C05
/-
  C10: `parse_interactions` against a reference meaning of a log of '+' / '-' rows (`c10_spec`).  The rows
  `generate_interactions` writes for a graph are a well-formed log; they mean the graph's presence exactly when every
  run of two or more instants has its closing entry, which the known finding D5 violates.
  `c10_spec` and `c10_latest` recurse on the REVERSED log (the latest row decides first, as the reader's state
  does), so nothing can be read off them directly; every proof enters through `c10_spec_snoc`, `c10_spec_iff`
  and `c10_latest_eq`.
-/
namespace Dynetx

/-- `c10_latest` on the reversed log (latest row first) -/
def c10_latestR (d : Bool) (a b : Node) : List Ev → Option Int
  | [] => none
  | r :: rest => if r.plus && sameKey d r.u r.v a b then some r.t else c10_latestR d a b rest

/-- time of the last `'+'` row of the pair `(a,b)` in the log `L` -/
def c10_latest (d : Bool) (L : List Ev) (a b : Node) : Option Int := c10_latestR d a b L.reverse

/-- `c10_spec` on the reversed log (latest row first) -/
def c10_specR (d : Bool) (a b : Node) (x : Int) : List Ev → Prop
  | [] => False
  | r :: rest =>
    c10_specR d a b x rest ∨
    (r.plus = true ∧ sameKey d r.u r.v a b = true ∧ x = r.t) ∨
    (r.plus = false ∧ sameKey d r.u r.v a b = true ∧
      ∃ t0, c10_latestR d a b rest = some t0 ∧ t0 ≤ x ∧ x < r.t)

/-- presence described by a log: `'+'` at `t` = the pair appears at `t`; `'-'` at `s` = the pair is
    present from its latest appearance through `s - 1` -/
def c10_spec (d : Bool) (L : List Ev) (a b : Node) (x : Int) : Prop := c10_specR d a b x L.reverse

/-- a well-formed log: (i) times are non-decreasing; (ii) every `'-'` row of a pair is preceded by a
    `'+'` row of that pair, and (iii) comes strictly after the pair's latest `'+'` time -/
def c10_wellFormed (d : Bool) (L : List Ev) : Prop :=
  (L.map (·.t)).Pairwise (· ≤ ·) ∧
  ∀ pre r post, L = pre ++ r :: post → r.plus = false →
    ∃ t0, c10_latest d pre r.u r.v = some t0 ∧ t0 < r.t

theorem c10_latest_nil (d : Bool) (a b : Node) : c10_latest d [] a b = none := rfl

theorem c10_latest_eq (d : Bool) (L : List Ev) (a b : Node) :
    c10_latest d L a b = (L.reverse.find? (fun r => r.plus && sameKey d r.u r.v a b)).map (·.t) := by
  unfold c10_latest
  induction L.reverse with
  | nil => rfl
  | cons r rest ih => cases h : (r.plus && sameKey d r.u r.v a b) <;> simp [c10_latestR, h, ih]

theorem c10_spec_snoc (d : Bool) (L : List Ev) (r : Ev) (a b : Node) (x : Int) :
    c10_spec d (L ++ [r]) a b x ↔
      c10_spec d L a b x ∨
      (r.plus = true ∧ sameKey d r.u r.v a b = true ∧ x = r.t) ∨
      (r.plus = false ∧ sameKey d r.u r.v a b = true ∧
        ∃ t0, c10_latest d L a b = some t0 ∧ t0 ≤ x ∧ x < r.t) := by
  unfold c10_spec c10_latest
  rw [List.reverse_append]
  rfl

theorem c10_latest_congr (d : Bool) (L : List Ev) {a b a' b' : Node} (h : sameKey d a b a' b' = true) :
    c10_latest d L a b = c10_latest d L a' b' := by
  simp only [c10_latest_eq, sameKey_congr_right h]

theorem c10_latest_mem (d : Bool) (L : List Ev) (a b : Node) (t0 : Int) (h : c10_latest d L a b = some t0) :
    ∃ r ∈ L, r.plus = true ∧ sameKey d r.u r.v a b = true ∧ r.t = t0 := by
  rw [c10_latest_eq, Option.map_eq_some_iff] at h
  obtain ⟨r, hf, rfl⟩ := h
  have hp := List.find?_some hf
  rw [Bool.and_eq_true] at hp
  exact ⟨r, List.mem_reverse.mp (List.mem_of_find?_eq_some hf), hp.1, hp.2, rfl⟩

theorem c10_latest_some_of_mem (d : Bool) (L : List Ev) (a b : Node) (r : Ev) (hr : r ∈ L)
    (hp : r.plus = true) (hk : sameKey d r.u r.v a b = true) : ∃ t0, c10_latest d L a b = some t0 := by
  rw [c10_latest_eq]
  refine Option.isSome_iff_exists.mp ?_
  rw [Option.isSome_map, List.find?_isSome]
  exact ⟨r, List.mem_reverse.mpr hr, by rw [hp, hk]; rfl⟩

theorem c10_chrono_split {pre post : List Ev} {r : Ev} (h : ((pre ++ r :: post).map (·.t)).Pairwise (· ≤ ·)) :
    (pre.map (·.t)).Pairwise (· ≤ ·) ∧ (∀ ev ∈ pre, ev.t ≤ r.t) ∧
      ∀ ev ∈ pre ++ r :: post, ev.t < r.t → ev ∈ pre := by
  rw [List.map_append, List.pairwise_append, List.map_cons, List.pairwise_cons] at h
  refine ⟨h.1, fun ev hev => h.2.2 ev.t (List.mem_map_of_mem hev) r.t List.mem_cons_self, ?_⟩
  intro ev hev hlt
  rcases List.mem_append.mp hev with h1 | h1
  · exact h1
  · rcases List.mem_cons.mp h1 with rfl | h1
    · exact (Int.lt_irrefl _ hlt).elim
    · exact absurd hlt (Int.not_lt.mpr (h.2.1.1 ev.t (List.mem_map_of_mem h1)))

theorem c10_latest_max (d : Bool) (L : List Ev) (a b : Node) (hch : (L.map (·.t)).Pairwise (· ≤ ·)) (t0 : Int)
    (hl : c10_latest d L a b = some t0) (r : Ev) (hr : r ∈ L) (hp : r.plus = true)
    (hk : sameKey d r.u r.v a b = true) : r.t ≤ t0 := by
  rw [c10_latest_eq, Option.map_eq_some_iff] at hl
  obtain ⟨r0, hf, rfl⟩ := hl
  obtain ⟨_, as, bs, hL, hno⟩ := List.find?_eq_some_iff_append.mp hf
  -- `r0` is the last `'+'` row of the pair: `r` is `r0` or comes before it
  have hL' : L = bs.reverse ++ r0 :: as.reverse := by rw [← List.reverse_reverse L, hL]; simp
  rw [hL'] at hch hr
  rcases List.mem_append.mp hr with h1 | h1
  · exact (c10_chrono_split hch).2.1 r h1
  · rcases List.mem_cons.mp h1 with rfl | h1
    · exact Int.le_refl _
    · have := hno r (List.mem_reverse.mp h1)
      simp [hp, hk] at this

/-- by induction from the end of the log, where `c10_spec_snoc` applies -/
theorem c10_spec_iff (d : Bool) (L : List Ev) (a b : Node) (x : Int) :
    c10_spec d L a b x ↔
      (∃ r ∈ L, r.plus = true ∧ sameKey d r.u r.v a b = true ∧ x = r.t) ∨
      (∃ pre r post, L = pre ++ r :: post ∧ r.plus = false ∧ sameKey d r.u r.v a b = true ∧
        ∃ t0, c10_latest d pre a b = some t0 ∧ t0 ≤ x ∧ x < r.t) := by
  rw [← List.reverse_reverse L]
  generalize L.reverse = R
  induction R with
  | nil => simp [c10_spec, c10_specR]
  | cons r R ih =>
    rw [List.reverse_cons, c10_spec_snoc, ih]
    constructor
    · rintro ((⟨r', hr', h⟩ | ⟨pre, r', post, hL, h⟩) | h | h)
      · exact Or.inl ⟨r', List.mem_append_left _ hr', h⟩
      · exact Or.inr ⟨pre, r', post ++ [r], hL ▸ List.append_assoc .., h⟩
      · exact Or.inl ⟨r, List.mem_append_cons_self, h⟩
      · exact Or.inr ⟨_, r, [], rfl, h⟩
    · rintro (⟨r', hr', h⟩ | ⟨pre, r', post, hL, h⟩)
      · rcases List.mem_append.mp hr' with hr' | hr'
        · exact Or.inl (Or.inl ⟨r', hr', h⟩)
        · rw [List.mem_singleton.mp hr'] at h; exact Or.inr (Or.inl h)
      · -- the row is the last one, or the rows after it end with the last one
        rcases List.eq_nil_or_concat post with rfl | ⟨post', r'', rfl⟩
        · obtain ⟨rfl, hr⟩ := List.append_inj' hL rfl
          cases hr
          exact Or.inr (Or.inr h)
        · rw [List.concat_eq_append, ← List.cons_append, ← List.append_assoc] at hL
          exact Or.inl (Or.inr ⟨pre, r', post', (List.append_inj' hL rfl).1, h⟩)

theorem c10_spec_congr (d : Bool) (L : List Ev) {a b a' b' : Node} (h : sameKey d a b a' b' = true) (x : Int) :
    c10_spec d L a b x ↔ c10_spec d L a' b' x := by
  simp only [c10_spec_iff, sameKey_congr_right h, c10_latest_congr d _ h]

theorem c10_spec_bound (d : Bool) (L : List Ev) (a b : Node) (x : Int) :
    c10_spec d L a b x → ∃ r ∈ L, x ≤ r.t := by
  rw [c10_spec_iff]
  rintro (⟨r, hr, _, _, hx⟩ | ⟨pre, r, post, hL, _, _, _, _, _, hx⟩)
  · exact ⟨r, hr, Int.le_of_eq hx⟩
  · exact ⟨r, hL ▸ List.mem_append_cons_self, Int.le_of_lt hx⟩

theorem c10_spec_mono (d : Bool) (L1 L2 : List Ev) (a b : Node) (x : Int) :
    c10_spec d L1 a b x → c10_spec d (L1 ++ L2) a b x := by
  rw [c10_spec_iff, c10_spec_iff]
  rintro (⟨r, hr, h⟩ | ⟨pre, r, post, hL, h⟩)
  · exact Or.inl ⟨r, List.mem_append_left _ hr, h⟩
  · exact Or.inr ⟨pre, r, post ++ L2, hL ▸ List.append_assoc .., h⟩

theorem c10_spec_latest (d : Bool) (L : List Ev) (a b : Node) (t0 : Int)
    (h : c10_latest d L a b = some t0) : c10_spec d L a b t0 := by
  obtain ⟨r, hr, hp, hk, ht⟩ := c10_latest_mem d L a b t0 h
  exact (c10_spec_iff ..).mpr (Or.inl ⟨r, hr, hp, hk, ht.symm⟩)

theorem c10_latest_of_spec (d : Bool) (L : List Ev) (a b : Node) (x : Int) :
    c10_spec d L a b x → ∃ t0, c10_latest d L a b = some t0 := by
  rw [c10_spec_iff]
  rintro (⟨r, hr, hp, hk, _⟩ | ⟨pre, r, post, hL, _, _, t0, hl, _⟩)
  · exact c10_latest_some_of_mem d L a b r hr hp hk
  · obtain ⟨r', hr', hp, hk, _⟩ := c10_latest_mem d pre a b t0 hl
    exact c10_latest_some_of_mem d L a b r' (hL ▸ List.mem_append_left _ hr') hp hk

/-- no gap at or above the latest `'+'` time `t0`: a `'+'` row describes nothing above `t0`, a `'-'` row an
    interval that starts at or below `t0` -/
theorem c10_spec_interval (d : Bool) (L : List Ev) (a b : Node) (hch : (L.map (·.t)).Pairwise (· ≤ ·))
    (t0 : Int) (hl : c10_latest d L a b = some t0) (x y : Int) (hx : c10_spec d L a b x) (hy : t0 ≤ y)
    (hyx : y ≤ x) : c10_spec d L a b y := by
  rw [c10_spec_iff] at hx ⊢
  rcases hx with ⟨r, hr, hp, hk, rfl⟩ | ⟨pre, r, post, hL, hp, hk, t1, hl1, h1, h2⟩
  · have := c10_latest_max d L a b hch t0 hl r hr hp hk
    exact Or.inl ⟨r, hr, hp, hk, Int.le_antisymm hyx (Int.le_trans this hy)⟩
  · obtain ⟨r1, hr1, hp1, hk1, ht1⟩ := c10_latest_mem d pre a b t1 hl1
    have := c10_latest_max d L a b hch t0 hl r1 (hL ▸ List.mem_append_left _ hr1) hp1 hk1
    exact Or.inr ⟨pre, r, post, hL, hp, hk, t1, hl1, ht1 ▸ Int.le_trans this hy, Int.lt_of_le_of_lt hyx h2⟩

theorem c10_wellFormed_prefix {d : Bool} {L1 L2 : List Ev} (h : c10_wellFormed d (L1 ++ L2)) :
    c10_wellFormed d L1 :=
  ⟨h.1.sublist ((List.sublist_append_left ..).map _),
    fun pre r post hL hm => h.2 pre r (post ++ L2) (hL ▸ List.append_assoc ..) hm⟩

/-- the state of the reader after the rows `P` -/
structure c10_Inv (d : Bool) (g : Graph) (P : List Ev) : Prop where
  wf : WF g
  removal : g.removal = true
  directed : g.directed = d
  presence : ∀ a b x, g.hasInteraction a b (some x) = true ↔ c10_spec d P a b x

theorem c10_Inv_empty (d : Bool) : c10_Inv d (Graph.empty d true) [] :=
  ⟨WF.empty d true, rfl, rfl, fun a b x => by simp [empty_hasInteraction, c10_spec, c10_specR]⟩

/-- one row: `'+'` at `t` is `add_interaction(u, v, t)`; `'-'` at `t` stretches the pair's latest stored run, which ends at
    `b0`, through `t - 1` (`replayRow`) -/
theorem c10_step {d : Bool} {g : Graph} {P : List Ev} (inv : c10_Inv d g P) (r : Ev)
    (hwf : c10_wellFormed d (P ++ [r])) :
    ∃ H, g.replayRow r = (H, none) ∧ c10_Inv d H (P ++ [r]) := by
  have hwfP := c10_wellFormed_prefix hwf
  have hchr := (c10_chrono_split hwf.1).2.1
  have hr := inv.removal
  have hd := inv.directed
  cases hp : r.plus with
  | true =>
    have sp := addInteraction_stepSpec g inv.wf hr r.u r.v r.t none r.t rfl
    rw [replayRow_plus hp]
    -- the start of the pair's latest run is the time of an earlier row
    have hacc := sp.accepted (fun ed a0 b0 rest hf htl => by
      obtain ⟨r', hr', hx⟩ := c10_spec_bound d P _ _ _
        ((inv.presence _ _ _).mp (inv.wf.head_start hr hf htl).1)
      exact Int.le_trans hx (hchr r' hr'))
    refine ⟨_, Prod.ext rfl hacc, sp.wf, sp.removal.trans hr, sp.directed.trans hd, ?_⟩
    intro a b x
    rw [sp.presence hacc, inv.presence, c10_spec_snoc, hd]
    simp only [hp, true_and, Bool.true_eq_false, false_and, or_false]
    exact or_congr_right (and_congr_right fun _ => and_comm.trans Int.le_antisymm_iff.symm)
  | false =>
    obtain ⟨t0, hl, hlt⟩ := hwf.2 P r [] rfl hp
    -- the pair is present at `t0`, so it is stored
    have hpres := (inv.presence _ _ _).mpr (c10_spec_latest d P _ _ _ hl)
    cases hf : g.findEdge r.u r.v with
    | none => simp [Graph.hasInteraction, hf] at hpres
    | some ed =>
      have hem := (findEdge_some hf).1
      obtain ⟨⟨a0, b0⟩, rest, htl⟩ := List.exists_cons_of_ne_nil (inv.wf.tl ed hem).1
      -- `t0 ≤ b0`, the end of the latest run, and the log describes `t0 .. b0`
      obtain ⟨h1, h2⟩ := inv.wf.head_end hr hf htl
      have hle : t0 ≤ b0 := h2 t0 hpres
      have hfill := fun y => c10_spec_interval d P _ _ hwfP.1 t0 hl b0 y ((inv.presence ..).mp h1)
      -- so the row adds `b0 .. r.t - 1` to the meaning of the log, as it does to the presence (under any name `(a,b)` of the pair)
      have hsnoc : ∀ a b x, c10_spec d (P ++ [r]) a b x ↔
          c10_spec d P a b x ∨ (sameKey d r.u r.v a b = true ∧ b0 ≤ x ∧ x ≤ r.t - 1) := by
        intro a b x
        rw [c10_spec_snoc]
        constructor
        · rintro (h | ⟨hp', _⟩ | ⟨_, hk, t1, hl1, h1, h2⟩)
          · exact Or.inl h
          · rw [hp] at hp'; cases hp'
          · cases hl.symm.trans ((c10_latest_congr d P hk).trans hl1)
            by_cases hxb : x ≤ b0
            · exact Or.inl ((c10_spec_congr d P hk x).mp (hfill x h1 hxb))
            · exact Or.inr ⟨hk, Int.le_of_lt (Int.not_le.mp hxb), Int.le_sub_one_of_lt h2⟩
        · rintro (h | ⟨hk, h1, h2⟩)
          · exact Or.inl h
          · exact Or.inr (Or.inr ⟨hp, hk, t0, c10_latest_congr d P hk ▸ hl, Int.le_trans hle h1,
              Int.lt_of_le_sub_one h2⟩)
      rw [replayRow_minus_some hp hf htl]
      by_cases hlt : b0 < r.t
      · rw [if_pos hlt]
        have hs : spanEnd b0 (some r.t) = some (r.t - 1) := if_neg (Int.not_le.mpr hlt)
        have sp := addInteraction_stepSpec g inv.wf hr r.u r.v b0 (some r.t) (r.t - 1) hs
        have hacc := sp.accepted fun ed' a1 b1 rest' hf' htl' => by
          cases hf.symm.trans hf'
          cases htl.symm.trans htl'
          exact (htl ▸ (inv.wf.tl ed hem).2 : Canon ((a0, b0) :: rest)).head_le
        refine ⟨_, Prod.ext rfl hacc, sp.wf, sp.removal.trans hr, sp.directed.trans hd, fun a b x => ?_⟩
        rw [sp.presence hacc, inv.presence, hd, hsnoc]
      · rw [if_neg hlt]
        refine ⟨g, rfl, inv.wf, hr, hd, fun a b x => ?_⟩
        rw [inv.presence, hsnoc]
        exact (or_iff_left fun h => hlt (Int.lt_of_le_sub_one (Int.le_trans h.2.1 h.2.2))).symm

theorem c10_replay (d : Bool) (L : List Ev) (hwf : c10_wellFormed d L) :
    ∃ H, parseInteractions d L = (H, none) ∧ c10_Inv d H L :=
  replayRows_sim (I := c10_Inv d) (S := L)
    (fun _ P r post hS inv => c10_step inv r
      (c10_wellFormed_prefix (L2 := post) (List.append_cons P r post ▸ hS ▸ hwf)))
    L [] (Graph.empty d true) rfl (c10_Inv_empty d)

/-- **C10, reader**: no row of a well-formed log raises, and the graph that is read has exactly the
    presence the log describes -/
theorem C10_log_replay (d : Bool) (L : List Ev) (hwf : c10_wellFormed d L) :
    ∃ H, parseInteractions d L = (H, none) ∧ WF H ∧ H.directed = d ∧
      ∀ a b x, H.hasInteraction a b (some x) = true ↔ c10_spec d L a b x := by
  obtain ⟨H, hH, inv⟩ := c10_replay d L hwf
  exact ⟨H, hH, inv.wf, inv.directed, inv.presence⟩

/-- **C10, KeyError**: a `'-'` row for a pair that has no earlier `'+'` row raises `KeyError`
    (so clause (ii) of well-formedness cannot be dropped); the rows before it were read -/
theorem C10_log_keyerror (d : Bool) (L : List Ev) (r : Ev) (post : List Ev) (hwf : c10_wellFormed d L)
    (hm : r.plus = false) (hnone : c10_latest d L r.u r.v = none) :
    ∃ H, parseInteractions d L = (H, none) ∧ parseInteractions d (L ++ r :: post) = (H, some .key) := by
  obtain ⟨H, hH, inv⟩ := c10_replay d L hwf
  refine ⟨H, hH, ?_⟩
  unfold parseInteractions
  rw [replayRows_append (r :: post) hH]
  -- a stored pair is present somewhere, so it has a `'+'` row
  have hf : H.findEdge r.u r.v = none := Option.eq_none_iff_forall_ne_some.mpr fun ed hf => by
    obtain ⟨x, hx⟩ := (inv.wf.flat_iff_exists inv.removal r.u r.v).mp
      ((hasInteraction_flat_iff H r.u r.v).mpr ⟨ed, findEdge_some hf⟩)
    obtain ⟨t0, ht0⟩ := c10_latest_of_spec d L _ _ _ ((inv.presence _ _ _).mp hx)
    rw [hnone] at ht0; cases ht0
  simp [Graph.replayRows, replayRow_minus_none hm hf]

/-- two appearances and one vanishing: `[+ (1,2) @2, + (1,2) @5, - (1,2) @8]` is read as the
    timeline `[(2,2), (5,7)]` -/
example :
    let r := parseInteractions false [⟨2, 1, 2, true⟩, ⟨5, 1, 2, true⟩, ⟨8, 1, 2, false⟩]
    r.2 = none ∧ r.1.timeline 1 2 = some [(2, 2), (5, 7)] := by
  decide

/-- the rows `generate_interactions` yields are the stream -/
theorem C10_rows (g : Graph) : g.genInteractions = g.stream := rfl

theorem C10_rows_chronological (d : Bool) (ops : List Op) :
    ((((Graph.empty d true).run ops).1).genInteractions.map (·.t)).Pairwise (· ≤ ·) :=
  C05_chronological d ops

/-! The written rows are the event log in time order; `KeyInv` says how the entries of one pair relate to the
    runs of its timeline (`mark`: a `'+'` at the start of a run, a `'-'` right after its end). -/

section marks
variable {d : Bool} {S : List Ev} {a b : Node} {tl : List Span}
  (hk : KeyInv d a b tl S) (hc : Canon tl) (hch : (S.map (·.t)).Pairwise (· ≤ ·))
include hk hc hch

theorem c10_latest_before {pre post : List Ev} {r : Ev} (hS : S = pre ++ r :: post) {q : Span} (hq : q ∈ tl)
    (hqr : q.2 + 1 = r.t) :
    c10_latest d pre a b = some q.1 := by
  obtain ⟨hchpre, hpre, hbefore⟩ := c10_chrono_split (hS ▸ hch)
  -- the `'+'` row of `q` comes before `r`
  obtain ⟨ev, hev, hevt, hevk, hevp⟩ := hk.complete q hq true (Or.inl rfl)
  have hevt : ev.t = q.1 := hevt
  have hevpre : ev ∈ pre := hbefore ev (hS ▸ hev) (hevt ▸ hqr ▸ Int.lt_add_one_of_le (hc.all_le q hq))
  obtain ⟨t0, ht0⟩ := c10_latest_some_of_mem d pre a b ev hevpre hevp hevk
  have hmax := c10_latest_max d pre a b hchpre t0 ht0 ev hevpre hevp hevk
  -- and the latest `'+'` row before `r` starts a run, so the pair is absent at the instant before it: it is not
  -- later than the start of `q`
  obtain ⟨r0, hr0, hr0p, hr0k, rfl⟩ := c10_latest_mem d pre a b t0 ht0
  have hgap := ((hc.start_iff r0.t).mp
    (hk.sound r0.t true ⟨r0, hS ▸ List.mem_append_left _ hr0, rfl, hr0k, hr0p⟩)).2
  rw [ht0, Int.le_antisymm (Int.not_lt.mp fun h => hgap ⟨q, hq, Int.le_sub_one_of_lt h,
    Int.sub_right_le_of_le_add (hqr ▸ hpre r0 hr0)⟩) (hevt ▸ hmax)]

/-- the rows of the pair mean the start of every run, and the whole run where the closing `'-'` row is there -/
theorem c10_spec_marks (x : Int) :
    c10_spec d S a b x ↔
      ∃ q ∈ tl, q.1 ≤ x ∧ x ≤ q.2 ∧ (x = q.1 ∨ hasMark d a b S (q.2 + 1) false) := by
  rw [c10_spec_iff]
  constructor
  · rintro (⟨r, hr, hp, hkr, rfl⟩ | ⟨pre, r, post, hS, hp, hkr, t0, hl, h1, h2⟩)
    · obtain ⟨p, hp', hpt⟩ := hk.sound r.t true ⟨r, hr, rfl, hkr, hp⟩
      exact ⟨p, hp', Int.le_of_eq hpt, hpt ▸ hc.all_le p hp', Or.inl hpt.symm⟩
    · obtain ⟨p, hp', hpt⟩ := hk.sound r.t false ⟨r, hS ▸ List.mem_append_cons_self, rfl, hkr, hp⟩
      have hpt : p.2 + 1 = r.t := hpt
      rw [c10_latest_before hk hc hch hS hp' hpt] at hl
      cases hl
      exact ⟨p, hp', h1, Int.le_of_lt_add_one (hpt ▸ h2),
        Or.inr ⟨r, hS ▸ List.mem_append_cons_self, hpt.symm, hkr, hp⟩⟩
  · rintro ⟨q, hq, h1, h2, hx | ⟨ev, hev, hevt, hevk, hevp⟩⟩
    · obtain ⟨ev, hev, hevt, hevk, hevp⟩ := hk.complete q hq true (Or.inl rfl)
      exact Or.inl ⟨ev, hev, hevp, hevk, hx.trans hevt.symm⟩
    · obtain ⟨pre, post, hS⟩ := List.append_of_mem hev
      exact Or.inr ⟨pre, ev, post, hS, hevp, hevk, q.1,
        c10_latest_before hk hc hch hS hq hevt.symm, h1, hevt ▸ Int.lt_add_one_of_le h2⟩

theorem c10_marks_spec_iff :
    (∀ x, c10_spec d S a b x ↔ memTl tl x) ↔ ∀ q ∈ tl, q.1 < q.2 → hasMark d a b S (q.2 + 1) false := by
  simp only [c10_spec_marks hk hc hch]
  constructor
  · intro h q hq hlen
    have hqle := hc.all_le q hq
    obtain ⟨p, hp, h1, h2, hx⟩ := (h q.2).mpr ⟨q, hq, hqle, Int.le_refl _⟩
    -- `p` and `q` share the instant `q.2`
    obtain rfl : p = q := (hc.sep hp hq).resolve_right (by omega)
    exact hx.resolve_left (Int.ne_of_gt hlen)
  · intro hcl x
    constructor
    · rintro ⟨q, hq, h1, h2, _⟩
      exact ⟨q, hq, h1, h2⟩
    · rintro ⟨q, hq, h1, h2⟩
      exact ⟨q, hq, h1, h2, Decidable.or_iff_not_imp_left.mpr fun hx =>
        hcl q hq (Int.lt_of_lt_of_le (Int.lt_iff_le_and_ne.mpr ⟨h1, Ne.symm hx⟩) h2)⟩

end marks

/-- the stream holds the entries of the event log, so it is in step with the timelines as the log is -/
theorem c10_keyInv_stream {g : Graph} (hwf : WF g) (hev : EvInv g) (a b : Node) :
    KeyInv g.directed a b (g.tlOf a b) g.stream :=
  (hev.keyInv hwf a b).of_marks fun t p => by simp only [hasMark, mem_stream_iff]

theorem c10_stream_wellFormed {g : Graph} {d : Bool} (hwf : WF g) (hd : g.directed = d) (hev : EvInv g) :
    c10_wellFormed d g.stream := by
  subst hd
  refine ⟨stream_chronological g, ?_⟩
  intro pre r post hS hm
  have k := c10_keyInv_stream hwf hev r.u r.v
  have hc := hwf.canon_tlOf r.u r.v
  obtain ⟨q, hq, hqr⟩ := k.sound r.t false ⟨r, hS ▸ List.mem_append_cons_self, rfl, sameKey_refl _ _ _, hm⟩
  have hqr : q.2 + 1 = r.t := hqr
  exact ⟨q.1, c10_latest_before k hc (stream_chronological g) hS hq hqr,
    hqr ▸ Int.lt_add_one_of_le (hc.all_le q hq)⟩

theorem c10_stream_spec_iff_closed {g : Graph} {d : Bool} (hwf : WF g) (hr : g.removal = true)
    (hd : g.directed = d) (hev : EvInv g) :
    (∀ a b x, c10_spec d g.stream a b x ↔ g.hasInteraction a b (some x) = true) ↔
    (∀ ed ∈ g.edges, ∀ s ∈ ed.tl, s.1 < s.2 →
      ∃ ev ∈ g.stream, ev.plus = false ∧ ev.t = s.2 + 1 ∧ sameKey d ed.u ed.v ev.u ev.v = true) := by
  subst hd
  have pair := fun a b => c10_marks_spec_iff (c10_keyInv_stream hwf hev a b) (hwf.canon_tlOf a b)
    (stream_chronological g)
  simp only [hwf.hasInteraction_tlOf hr]
  rw [forall_congr' fun a => forall_congr' fun b => pair a b]
  constructor
  · intro h ed hedm s hs hlen
    obtain ⟨ev, hev, ht, hkey, hp⟩ :=
      h ed.u ed.v s ((hwf.mem_tlOf _ _ s).mp ⟨ed, hedm, sameKey_refl _ _ _, hs⟩) hlen
    exact ⟨ev, hev, hp, ht, sameKey_symm_of hkey⟩
  · intro h a b q hq hlen
    obtain ⟨ed, hedm, hedk, hs⟩ := (hwf.mem_tlOf a b q).mpr hq
    obtain ⟨ev, hev, hp, ht, hkey⟩ := h ed hedm q hs hlen
    exact ⟨ev, hev, ht, sameKey_trans (sameKey_symm_of hkey) hedk, hp⟩

end Dynetx
