import DynetxProofs.C15
import DynetxProofs.Lemmas.Upsert
/-
  C12 — soundness of `Graph.timeRespectingPaths` / `Graph.allTimeRespectingPaths`
  (algorithms/paths.py `time_respecting_paths`, `all_time_respecting_paths`).

  The function enumerates the simple paths of the temporal DAG from a source to a target (`simplePaths`, which stands
  for `networkx.all_simple_paths`), turns each list of occurrences into its hops and filters. `ValidTRP` is the
  specification on hop lists; `validTRP_hopsOf` translates between it and the paths of occurrences in the DAG, and is
  what both soundness (here) and completeness (C13) rest on.
-/
namespace Dynetx

/-- on an edge `x@s → y@t` with `s < t`, `x` interacts at every window instant strictly between `s` and `t` -/
theorem c12_edge_active {g : Graph} {u : Node} {v : Option Node} {start stop : Option Int} {d : Dag}
    (hids : g.ids.Pairwise (· < ·)) (h : g.temporalDag u v start stop = .ok d) :
    ∀ e ∈ d.edges, e.1.2 < e.2.2 → ∀ w ∈ dagWindow g start stop, e.1.2 < w → w < e.2.2 →
      g.neighbors e.1.1 (some w) ≠ [] := by
  intro e he hlt
  obtain ⟨_, _, h1 | ⟨_, _, h2⟩⟩ := ((temporalDag_invT hids h).edges_iff e).mp he
  · rw [h1] at hlt
    exact absurd hlt (Int.lt_irrefl _)
  · exact h2

/-- `R` holds between every two consecutive elements of the list -/
def c12_consec {α : Type} (R : α → α → Prop) : List α → Prop
  | a :: b :: rest => R a b ∧ c12_consec R (b :: rest)
  | _ => True

@[simp] theorem c12_consec_nil {α : Type} (R : α → α → Prop) : c12_consec R [] = True := rfl
@[simp] theorem c12_consec_single {α : Type} (R : α → α → Prop) (a : α) : c12_consec R [a] = True := rfl
@[simp] theorem c12_consec_cons2 {α : Type} (R : α → α → Prop) (a b : α) (rest : List α) :
    c12_consec R (a :: b :: rest) = (R a b ∧ c12_consec R (b :: rest)) := rfl

theorem c12_consec_iff {α : Type} (R : α → α → Prop) (p : List α) :
    c12_consec R p ↔ ∀ l a b r, p = l ++ a :: b :: r → R a b := by
  induction p using consec_induction with
  | nil => exact iff_of_true trivial fun l _ _ _ h => by cases l <;> cases h
  | single => exact iff_of_true trivial fun l _ _ _ h => by rcases l with _ | ⟨_, _ | _⟩ <;> cases h
  | cons2 x y p ih =>
    rw [c12_consec_cons2, ih]
    constructor
    · rintro ⟨h1, h2⟩ (_ | ⟨_, l⟩) a b r h
      · cases h
        exact h1
      · exact h2 l a b r (List.cons.inj h).2
    · exact fun h => ⟨h [] x y p rfl, fun l a b r h' => h (x :: l) a b r (h' ▸ rfl)⟩

theorem c12_consec_mono {α : Type} {R S : α → α → Prop} (hRS : ∀ a b, R a b → S a b) :
    ∀ p : List α, c12_consec R p → c12_consec S p := by
  intro p
  induction p using consec_induction with
  | nil => exact id
  | single => exact id
  | cons2 a b rest ih => exact fun h => ⟨hRS a b h.1, ih h.2⟩

theorem c12_consec_pred {α : Type} {R : α → α → Prop} (p : List α) (hc : c12_consec R p) :
    ∀ x ∈ p.tail, ∃ y, R y x := by
  induction p using consec_induction with
  | nil => exact List.forall_mem_nil _
  | single => exact List.forall_mem_nil _
  | cons2 a b rest ih => exact List.forall_mem_cons.mpr ⟨⟨a, hc.1⟩, ih hc.2⟩

/-- by induction on the fuel; `visited` holds the occurrences before `cur`, most recent first, and the walk so far
    together with the path found has no repetition -/
theorem mem_simplePathsGo (edges : List (Occ × Occ)) (target : Occ) (fuel : Nat) :
    ∀ (cur : Occ) (visited p : List Occ), (cur :: visited).Nodup →
      (p ∈ simplePathsGo edges target fuel cur visited ↔
        p.head? = some cur ∧ p.getLast? = some target ∧ (p ++ visited).Nodup ∧
          c12_consec (fun a b => (a, b) ∈ edges) p ∧ p.length ≤ fuel) := by
  induction fuel with
  | zero =>
    intro cur visited p _
    cases p <;> simp [simplePathsGo]
  | succ fuel ih =>
    intro cur visited p hvis
    unfold simplePathsGo
    split
    · next hct =>
      obtain rfl : cur = target := eq_of_beq hct
      rw [List.mem_singleton]
      constructor
      · rintro rfl
        exact ⟨rfl, rfl, hvis, trivial, Nat.succ_le_succ (Nat.zero_le _)⟩
      · rintro ⟨hh, hl, hnd, -⟩
        cases p with
        | nil => cases hh
        | cons a r =>
          obtain rfl : a = cur := Option.some.inj hh
          cases r with
          | nil => rfl
          | cons y r =>
            rw [List.getLast?_cons_cons] at hl
            exact absurd (List.mem_append_left _ (List.mem_of_getLast? hl)) (List.nodup_cons.mp hnd).1
    · next hct =>
      simp only [List.mem_flatMap, List.mem_filter, List.mem_map, Bool.and_eq_true, Bool.not_eq_true',
        bne_iff_ne, ne_eq, List.contains_eq_mem, decide_eq_false_iff_not]
      constructor
      · rintro ⟨n, ⟨⟨e, ⟨he, hec⟩, rfl⟩, hnv, hnc⟩, p', hp', rfl⟩
        obtain rfl : e.1 = cur := eq_of_beq hec
        have hn : (e.2 :: e.1 :: visited).Nodup :=
          List.nodup_cons.mpr ⟨fun hm => (List.mem_cons.mp hm).elim hnc hnv, hvis⟩
        obtain ⟨h1, h2, h3, h4, h5⟩ := (ih e.2 _ p' hn).mp hp'
        cases p' with
        | nil => cases h1
        | cons a r =>
          obtain rfl : a = e.2 := Option.some.inj h1
          exact ⟨rfl, by rwa [List.getLast?_cons_cons], List.perm_middle.nodup_iff.mp h3, ⟨he, h4⟩,
            Nat.succ_le_succ h5⟩
      · rintro ⟨hh, hl, hnd, hc, hlen⟩
        cases p with
        | nil => cases hh
        | cons a r =>
          obtain rfl : a = cur := Option.some.inj hh
          cases r with
          | nil => exact absurd (beq_iff_eq.mpr (Option.some.inj hl)) hct
          | cons n r =>
            rw [List.getLast?_cons_cons] at hl
            have hnd' : (n :: r ++ a :: visited).Nodup := List.perm_middle.nodup_iff.mpr hnd
            have hn : n ∉ a :: visited := fun hm => (List.nodup_cons.mp hnd').1 (List.mem_append_right _ hm)
            have hrec : n :: r ∈ simplePathsGo edges target fuel n (a :: visited) :=
              (ih n _ _ (List.nodup_cons.mpr ⟨hn, hvis⟩)).mpr ⟨rfl, hl, hnd', hc.2, Nat.le_of_succ_le_succ hlen⟩
            -- `n` is a successor of `a` that is new to the walk, and the rest is a path found from `n`
            exact ⟨n, ⟨⟨(a, n), ⟨hc.1, beq_self_eq_true _⟩, rfl⟩, fun hm => hn (List.mem_cons_of_mem _ hm),
              fun hm => hn (hm ▸ List.mem_cons_self)⟩, n :: r, hrec, rfl⟩

theorem c12_dag_nodes_nodup (d : Dag) : d.nodes.Nodup :=
  nodup_foldl_insertNew List.nodup_nil

/-- A duplicate-free chain of DAG edges has at most `|nodes| + 1` occurrences, all but the first being heads of
    edges: the fuel of `simplePaths` suffices. -/
theorem c12_chain_length_le {d : Dag} {p : List Occ} (hnd : p.Nodup)
    (hc : c12_consec (fun a b => (a, b) ∈ d.edges) p) : p.length ≤ d.nodes.length + 1 := by
  have hsub : p.tail ⊆ d.nodes := fun x hx =>
    (c12_consec_pred p hc x hx).elim fun _ h => mem_dag_nodes.mpr ⟨_, h, Or.inr rfl⟩
  have := (hnd.sublist (List.tail_sublist p)).length_le_of_subset hsub
  rw [List.length_tail] at this
  omega

/-- `simplePaths d s t` is exactly the set of simple paths from `s` to `t` in the DAG (for `s = t` this is the one-node
    path); the fuel suffices by `c12_chain_length_le` -/
theorem c12_simplePaths_iff (d : Dag) (s t : Occ) (p : List Occ) :
    p ∈ simplePaths d s t ↔
      p.head? = some s ∧ p.getLast? = some t ∧ p.Nodup ∧ c12_consec (fun a b => (a, b) ∈ d.edges) p := by
  rw [simplePaths, mem_simplePathsGo _ _ _ _ _ _ (List.pairwise_singleton _ s), List.append_nil]
  exact ⟨fun ⟨h1, h2, h3, h4, _⟩ => ⟨h1, h2, h3, h4⟩, fun ⟨h1, h2, h3, h4⟩ => ⟨h1, h2, h3, h4, c12_chain_length_le h3 h4⟩⟩

theorem c12_simplePaths_nonempty {d : Dag} {s t : Occ} {p : List Occ} (h : p ∈ simplePaths d s t) : p ≠ [] := by
  rintro rfl
  cases ((c12_simplePaths_iff d s t []).mp h).1

@[simp] theorem c12_hopsOf_nil : hopsOf [] = [] := rfl
@[simp] theorem c12_hopsOf_single (a : Occ) : hopsOf [a] = [] := rfl
@[simp] theorem c12_hopsOf_cons2 (a b : Occ) (rest : List Occ) :
    hopsOf (a :: b :: rest) = (a.1, b.1, b.2) :: hopsOf (b :: rest) := rfl

theorem c12_hopsOf_length (p : List Occ) : (hopsOf p).length = p.length - 1 := by
  induction p using consec_induction with
  | nil => rfl
  | single => rfl
  | cons2 a b rest ih => exact congrArg (· + 1) ih

theorem c12_hopsOf_eq_nil (p : List Occ) : hopsOf p = [] ↔ p.length ≤ 1 := by
  rw [← List.length_eq_zero_iff, c12_hopsOf_length]
  omega

theorem forall_mem_hopsOf {P : Hop → Prop} (q : List Occ) :
    (∀ h ∈ hopsOf q, P h) ↔ c12_consec (fun a b => P (a.1, b.1, b.2)) q := by
  induction q using consec_induction with
  | nil => simp
  | single => simp
  | cons2 a b r ih => rw [c12_hopsOf_cons2, List.forall_mem_cons, c12_consec_cons2, ih]

/-- each hop `(a,b,t)` comes from two consecutive occurrences `(a,s)`, `(b,t)` of the path -/
theorem c12_mem_hopsOf (p : List Occ) (h : Hop) :
    h ∈ hopsOf p ↔ ∃ l r s, p = l ++ (h.1, s) :: (h.2.1, h.2.2) :: r := by
  constructor
  · revert h
    rw [forall_mem_hopsOf, c12_consec_iff]
    exact fun l a b r hp => ⟨l, r, a.2, hp⟩
  · rintro ⟨l, r, s, hp⟩
    exact (c12_consec_iff _ p).mp ((forall_mem_hopsOf p).mp fun _ hm => hm) l (h.1, s) (h.2.1, h.2.2) r hp

/-- the occurrence a hop arrives at -/
def occF (h : Hop) : Occ := (h.2.1, h.2.2)

theorem map_occF_hopsOf (q : List Occ) : (hopsOf q).map occF = q.tail := by
  induction q using consec_induction with
  | nil => rfl
  | single => rfl
  | cons2 a b r ih => exact congrArg (b :: ·) ih

/-- the two rejections of the filter, as a relation between consecutive hops -/
def c12_ppRel (h1 h2 : Hop) : Prop := ¬ (h2.1 = h1.2.1 ∧ h2.2.1 = h1.1) ∧ h2.2.2 ≠ h1.2.2

theorem pingPongOk_cons2 (a b : Hop) (rest : TPath) :
    pingPongOk (a :: b :: rest) = true ↔ c12_ppRel a b ∧ pingPongOk (b :: rest) = true := by
  simp only [pingPongOk, c12_ppRel, Bool.and_eq_true, Bool.not_eq_true', Bool.or_eq_false_iff,
    Bool.and_eq_false_imp, beq_iff_eq, beq_eq_false_iff_ne, ne_eq, not_and]

theorem c12_pingPongOk_iff (p : TPath) : pingPongOk p = true ↔ c12_consec c12_ppRel p := by
  induction p using consec_induction with
  | nil => exact iff_of_true rfl trivial
  | single => exact iff_of_true rfl trivial
  | cons2 a b rest ih => rw [pingPongOk_cons2, c12_consec_cons2, ih]

/-- `pingPongOk` accepts exactly the hop lists in which no hop reverses the previous one and no two consecutive
    hops carry the same instant -/
theorem c12_pingPongOk_consecutive (p : TPath) :
    pingPongOk p = true ↔ ∀ l h1 h2 r, p = l ++ h1 :: h2 :: r →
      ¬ (h2.1 = h1.2.1 ∧ h2.2.1 = h1.1) ∧ h2.2.2 ≠ h1.2.2 := by
  rw [c12_pingPongOk_iff, c12_consec_iff]
  rfl

/-- consecutive hops chain, times strictly increase, no immediate reversal, and the intermediate node
    interacts at every window instant strictly between arrival and departure -/
def c12_linked (g : Graph) (W : List Int) : TPath → Prop
  | h1 :: h2 :: rest =>
      h1.2.1 = h2.1 ∧ h1.2.2 < h2.2.2 ∧ ¬ (h2.2.1 = h1.1) ∧
      (∀ x ∈ W, h1.2.2 < x → x < h2.2.2 → g.neighbors h2.1 (some x) ≠ []) ∧ c12_linked g W (h2 :: rest)
  | _ => True

/-- a genuine time-respecting path from `u` (to `v` when given) inside the window `W` -/
structure ValidTRP (g : Graph) (u : Node) (v : Option Node) (W : List Int) (p : TPath) : Prop where
  nonempty : p ≠ []
  starts : ∀ h, p.head? = some h → h.1 = u
  /-- time in the window, interaction present (a→b on directed graphs) -/
  hops : ∀ h ∈ p, h.2.2 ∈ W ∧ h.2.1 ∈ g.neighbors h.1 (some h.2.2)
  linked : c12_linked g W p
  ends : ∀ w, v = some w → ∀ h, p.getLast? = some h → h.2.1 = w

theorem validTRP_single {g : Graph} {u : Node} {v : Option Node} {W : List Int} {h : Hop} (hu : h.1 = u)
    (hh : h.2.2 ∈ W ∧ h.2.1 ∈ g.neighbors h.1 (some h.2.2)) (hv : ∀ w, v = some w → h.2.1 = w) :
    ValidTRP g u v W [h] :=
  ⟨nofun, fun _ e => Option.some.inj e ▸ hu, fun _ hm => List.mem_singleton.mp hm ▸ hh, trivial,
    fun w hw _ e => Option.some.inj e ▸ hv w hw⟩

section Bridge
variable {g : Graph} {u : Node} {v : Option Node} {start stop : Option Int} {d : Dag}

/-- The induction behind `validTRP_hopsOf`, over the occurrences `o :: os` that follow the first hop. `o` is the head
    of an edge and `(a, o.1, o.2)` is the hop that arrived there; it stands in front on both sides because the filter
    and `c12_linked` compare each hop with the one before it. Link by link this is `DagInvT.edges_iff`: that
    consecutive hops carry different instants, which the filter checks, is what separates a continuation edge from a
    root edge. -/
theorem c12_tail_iff (hids : g.ids.Pairwise (· < ·)) (hd : g.temporalDag u v start stop = .ok d)
    (os : List Occ) (a : Node) (o : Occ) (ho : ∃ e ∈ d.edges, e.2 = o) :
    c12_consec (fun a b => (a, b) ∈ d.edges) (o :: os) ∧
        pingPongOk ((a, o.1, o.2) :: hopsOf (o :: os)) = true ↔
      c12_linked g (dagWindow g start stop) ((a, o.1, o.2) :: hopsOf (o :: os)) ∧
        ∀ h ∈ hopsOf (o :: os), h.2.2 ∈ dagWindow g start stop ∧ h.2.1 ∈ g.neighbors h.1 (some h.2.2) := by
  induction os generalizing a o with
  | nil => exact ⟨fun _ => ⟨trivial, nofun⟩, fun _ => ⟨trivial, rfl⟩⟩
  | cons o' os ih =>
    have hedge := (temporalDag_invT hids hd).edges_iff (o, o')
    rw [c12_hopsOf_cons2, c12_consec_cons2, pingPongOk_cons2, List.forall_mem_cons]
    constructor
    · rintro ⟨⟨he, hc⟩, ⟨hrev, hneq⟩, hpp⟩
      obtain ⟨h1, h2, hroot | ⟨_, h3, h4⟩⟩ := hedge.mp he
      · exact absurd (congrArg Prod.snd hroot).symm hneq
      obtain ⟨hl, hh⟩ := (ih o.1 o' ⟨_, he, rfl⟩).mp ⟨hc, hpp⟩
      exact ⟨⟨rfl, h3, fun h => hrev ⟨rfl, h⟩, h4, hl⟩, ⟨h1, h2⟩, hh⟩
    · rintro ⟨⟨_, h3, hnr, h4, hl⟩, ⟨h1, h2⟩, hh⟩
      have he := hedge.mpr ⟨h1, h2, Or.inr ⟨ho, h3, h4⟩⟩
      obtain ⟨hc, hpp⟩ := (ih o.1 o' ⟨_, he, rfl⟩).mpr ⟨hl, hh⟩
      exact ⟨⟨he, hc⟩, ⟨fun h => hnr h.2, Int.ne_of_gt h3⟩, hpp⟩

/-- **hops and occurrences.** For a list of occurrences that leaves the root `u` along an edge, the hops form a genuine
    time-respecting path exactly when the list goes on along edges of the DAG, the hops pass the ping-pong filter and
    the last occurrence is at `v` (when `v` is given). Soundness reads it from right to left, completeness from left to
    right. -/
theorem validTRP_hopsOf (hids : g.ids.Pairwise (· < ·)) (hd : g.temporalDag u v start stop = .ok d)
    {o0 o1 : Occ} (os : List Occ) (hu : o0.1 = u) (he : (o0, o1) ∈ d.edges) :
    ValidTRP g u v (dagWindow g start stop) (hopsOf (o0 :: o1 :: os)) ↔
      c12_consec (fun a b => (a, b) ∈ d.edges) (o1 :: os) ∧ pingPongOk (hopsOf (o0 :: o1 :: os)) = true ∧
        ∀ w, v = some w → ∀ t, (o1 :: os).getLast? = some t → t.1 = w := by
  have ht := c12_tail_iff hids hd os o0.1 o1 ⟨_, he, rfl⟩
  have hlast : (hopsOf (o0 :: o1 :: os)).getLast?.map occF = (o1 :: os).getLast? := by
    rw [← List.getLast?_map, map_occF_hopsOf]
    rfl
  constructor
  · intro hv
    obtain ⟨hc, hpp⟩ := ht.mpr ⟨hv.linked, fun h hm => hv.hops h (List.mem_cons_of_mem _ hm)⟩
    refine ⟨hc, hpp, fun w hw t htl => ?_⟩
    rw [htl, Option.map_eq_some_iff] at hlast
    obtain ⟨h, hh, rfl⟩ := hlast
    exact hv.ends w hw h hh
  · rintro ⟨hc, hpp, hend⟩
    obtain ⟨hl, hh⟩ := ht.mp ⟨hc, hpp⟩
    refine ⟨nofun, fun h hh' => Option.some.inj hh' ▸ hu, ?_, hl, fun w hw h hlh => hend w hw (occF h) ?_⟩
    · intro h hm
      rcases List.mem_cons.mp hm with rfl | hm
      · exact (temporalDag_inv hd).edge_sound _ he
      · exact hh h hm
    · rw [← hlast, hlh]
      rfl

end Bridge

theorem pathKey_cons (a : Hop) (rest : TPath) :
    pathKey (a :: rest) = (a.1, ((a :: rest).getLast (List.cons_ne_nil a rest)).2.1) := by
  rw [pathKey, List.head?_cons, List.getLast?_eq_some_getLast (List.cons_ne_nil a rest)]

/-- the keys in the order of their first occurrence, each with the paths filed under it, in their order -/
theorem groupPaths_eq (ps : List TPath) :
    groupPaths ps =
      ((ps.map pathKey).foldl insertNew []).map fun k => (k, ps.filter fun p => pathKey p == k) := by
  refine foldl_prefix_inv (R := fun _ _ => True) _
    (fun done acc => acc = ((done.map pathKey).foldl insertNew []).map fun k => (k, done.filter fun p => pathKey p == k))
    ?_ ps [] [] (List.pairwise_of_forall fun _ _ => trivial) rfl
  rintro done p _ - rfl
  have hK : ∀ k, k ∈ (done.map pathKey).foldl insertNew [] ↔ ∃ q ∈ done, pathKey q = k := by
    simp [mem_foldl_insertNew]
  simp only [List.map_append, List.map_cons, List.map_nil, List.foldl_append, List.foldl_cons, List.foldl_nil,
    List.filter_append, List.any_map, Function.comp_def, List.map_map]
  split
  · next hany =>
    obtain ⟨k, hk, h⟩ := List.any_eq_true.mp hany
    rw [insertNew_of_mem (eq_of_beq h ▸ hk)]
    refine List.map_congr_left fun k _ => ?_
    by_cases h : k = pathKey p
    · simp [h]
    · simp [h, Ne.symm h]
  · next hany =>
    have hk : pathKey p ∉ (done.map pathKey).foldl insertNew [] :=
      fun hk => hany (List.any_eq_true.mpr ⟨_, hk, beq_self_eq_true _⟩)
    rw [insertNew_of_not_mem hk, List.map_append]
    congr 1
    · refine List.map_congr_left fun k hk' => ?_
      have : pathKey p ≠ k := fun h => hk (h ▸ hk')
      simp [this]
    · have : done.filter (fun q => pathKey q == pathKey p) = [] :=
        List.filter_eq_nil_iff.mpr fun q hq h => hk ((hK _).mpr ⟨q, hq, eq_of_beq h⟩)
      simp [this]

theorem mem_groupPaths {ps : List TPath} {kp : (Node × Node) × List TPath} :
    kp ∈ groupPaths ps ↔ (∃ p ∈ ps, pathKey p = kp.1) ∧ kp.2 = ps.filter fun p => pathKey p == kp.1 := by
  simp only [groupPaths_eq, List.mem_map, mem_foldl_insertNew, List.not_mem_nil, false_or]
  constructor
  · rintro ⟨k, ⟨q, hq, rfl⟩, rfl⟩
    exact ⟨⟨q, hq, rfl⟩, rfl⟩
  · rintro ⟨⟨q, hq, hk⟩, h2⟩
    exact ⟨kp.1, ⟨q, hq, hk⟩, by rw [← h2]⟩

theorem mem_of_mem_groupPaths {ps : List TPath} {kp : (Node × Node) × List TPath} {p : TPath}
    (hkp : kp ∈ groupPaths ps) (hp : p ∈ kp.2) : p ∈ ps ∧ pathKey p = kp.1 := by
  rw [(mem_groupPaths.mp hkp).2, List.mem_filter, beq_iff_eq] at hp
  exact hp

theorem groupPaths_mem {ps : List TPath} {p : TPath} (h : p ∈ ps) :
    ∃ kp ∈ groupPaths ps, kp.1 = pathKey p ∧ p ∈ kp.2 :=
  ⟨(pathKey p, ps.filter fun q => pathKey q == pathKey p), mem_groupPaths.mpr ⟨⟨p, h, rfl⟩, rfl⟩, rfl,
    List.mem_filter.mpr ⟨h, beq_self_eq_true _⟩⟩

theorem groupPaths_keys_nodup (ps : List TPath) : ((groupPaths ps).map (·.1)).Nodup := by
  simp only [groupPaths_eq, List.map_map, Function.comp_def, List.map_id']
  exact nodup_foldl_insertNew List.nodup_nil

/-- the hop lists kept from the DAG paths between the given source-target pairs: ping-pong filter, no empty list,
    no duplicate -/
def keptPaths (d : Dag) (pairs : List (Occ × Occ)) : List TPath :=
  ((pairs.flatMap fun st => (simplePaths d st.1 st.2).map hopsOf).filter fun pt =>
    pingPongOk pt && !pt.isEmpty).foldl insertNew []

theorem mem_keptPaths {d : Dag} {pairs : List (Occ × Occ)} {p : TPath} :
    p ∈ keptPaths d pairs ↔
      (∃ st ∈ pairs, ∃ q ∈ simplePaths d st.1 st.2, hopsOf q = p) ∧ pingPongOk p = true ∧ p ≠ [] := by
  simp only [keptPaths, mem_foldl_insertNew, List.not_mem_nil, false_or, List.mem_filter, List.mem_flatMap,
    List.mem_map, Bool.and_eq_true, Bool.not_eq_true', List.isEmpty_eq_false_iff]

theorem keptPaths_nodup (d : Dag) (pairs : List (Occ × Occ)) : (keptPaths d pairs).Nodup :=
  nodup_foldl_insertNew List.nodup_nil

def Dag.pairs (d : Dag) : List (Occ × Occ) := d.sources.flatMap fun s => d.targets.map fun t => (s, t)

theorem Dag.mem_pairs {d : Dag} {st : Occ × Occ} : st ∈ d.pairs ↔ st.1 ∈ d.sources ∧ st.2 ∈ d.targets := by
  obtain ⟨s, t⟩ := st
  simp [Dag.pairs]

/-- the function unfolded, once: every proof about a successful call, here and in C13, starts from this -/
theorem trp_ok {g : Graph} {u : Node} {v : Option Node} {start stop : Option Int} {res : c13_Res}
    (h : g.timeRespectingPaths u v start stop = .ok res) :
    (g.hasNode u start = false ∧ res = []) ∨
      ∃ d, g.temporalDag u v start stop = .ok d ∧ res = groupPaths (keptPaths d d.pairs) := by
  unfold Graph.timeRespectingPaths at h
  cases hu : g.hasNode u start <;> simp only [hu, Bool.not_false, Bool.not_true, if_true, Bool.false_eq_true,
    if_false] at h
  · exact Or.inl ⟨rfl, (Except.ok.inj h).symm⟩
  · split at h
    · cases h
    · next d hd => exact Or.inr ⟨d, hd, (Except.ok.inj h).symm⟩

/-- **C12 (soundness).** Every returned path is a genuine time-respecting path from `u` (to `v`), filed under
    the key (first node, last node). -/
theorem C12_sound (g : Graph) (hids : g.ids.Pairwise (· < ·)) (u : Node) (v : Option Node)
    (start stop : Option Int) (res : List ((Node × Node) × List TPath))
    (h : g.timeRespectingPaths u v start stop = .ok res) :
    ∀ kp ∈ res, ∀ p ∈ kp.2, ValidTRP g u v (dagWindow g start stop) p ∧ kp.1 = pathKey p := by
  rcases trp_ok h with ⟨_, rfl⟩ | ⟨d, hd, rfl⟩
  · exact nofun
  · intro kp hkp p hp
    obtain ⟨hp, hkey⟩ := mem_of_mem_groupPaths hkp hp
    obtain ⟨⟨st, hst, q, hq, rfl⟩, hpp, hne⟩ := mem_keptPaths.mp hp
    obtain ⟨hs, ht⟩ := Dag.mem_pairs.mp hst
    obtain ⟨hhead, hlast, _, hchain⟩ := (c12_simplePaths_iff d st.1 st.2 q).mp hq
    rcases q with _ | ⟨o0, _ | ⟨o1, os⟩⟩
    · exact absurd rfl hne
    · exact absurd rfl hne
    obtain rfl : o0 = st.1 := Option.some.inj hhead
    refine ⟨(validTRP_hopsOf hids hd os (((temporalDag_inv hd).sources_iff _).mp hs).1 hchain.1).mpr
      ⟨hchain.2, hpp, fun w hw t htl => ?_⟩, hkey.symm⟩
    obtain rfl : t = st.2 := Option.some.inj (htl.symm.trans hlast)
    exact (((temporalDag_inv hd).targets_iff _).mp ht).2 w hw

/-- no path occurs twice in a group and no key occurs twice -/
theorem c12_nodup (g : Graph) (u : Node) (v : Option Node) (start stop : Option Int) (res : c13_Res)
    (h : g.timeRespectingPaths u v start stop = .ok res) :
    (∀ kp ∈ res, kp.2.Nodup) ∧ (res.map (·.1)).Nodup := by
  rcases trp_ok h with ⟨_, rfl⟩ | ⟨d, _, rfl⟩
  · simp
  · exact ⟨fun kp hkp => (mem_groupPaths.mp hkp).2 ▸ (keptPaths_nodup _ _).filter _, groupPaths_keys_nodup _⟩

/-- **C12 (no duplicates).** `c12_nodup`; the hypothesis on the ids is not needed. -/
theorem C12_nodup (g : Graph) (_hids : g.ids.Pairwise (· < ·)) (u : Node) (v : Option Node)
    (start stop : Option Int) (res : List ((Node × Node) × List TPath))
    (h : g.timeRespectingPaths u v start stop = .ok res) :
    (∀ kp ∈ res, kp.2.Nodup) ∧ (res.map (·.1)).Nodup := c12_nodup g u v start stop res h

theorem c12_pathKey_fst {g : Graph} {u : Node} {v : Option Node} {W : List Int} {p : TPath}
    (h : ValidTRP g u v W p) : (pathKey p).1 = u := by
  cases p with
  | nil => exact absurd rfl h.nonempty
  | cons a rest => exact (congrArg Prod.fst (pathKey_cons a rest)).trans (h.starts a rfl)

/-- the write of one entry of the result for the root `u` into the accumulated dictionary -/
def c13_mergeStep (u : Node) (res : c13_Res) (kp : (Node × Node) × List TPath) : c13_Res :=
  upsert res (u, kp.1.2) (fun _ => ((u, kp.1.2), kp.2)) kp.2

/-- one iteration of the loop over the roots -/
def c13_allStep (g : Graph) (start stop : Option Int) (res : c13_Res) (u : Node) : Except Err c13_Res :=
  match g.timeRespectingPaths u none start stop with
  | .error e => .error e
  | .ok paths => .ok (paths.foldl (c13_mergeStep u) res)

theorem c13_all_eq_foldlM (g : Graph) (start stop minT : Option Int) :
    g.allTimeRespectingPaths start stop minT = (g.nodesAt minT).foldlM (c13_allStep g start stop) [] := rfl

/-- what holds of the entries written and of those there before holds of all entries after the writes for one root -/
theorem c12_allMerge_inv (Q : (Node × Node) × List TPath → Prop) (u : Node) (paths res : c13_Res)
    (hp : ∀ kp ∈ paths, Q ((u, kp.1.2), kp.2)) (h : ∀ e ∈ res, Q e) :
    ∀ e ∈ paths.foldl (c13_mergeStep u) res, Q e := by
  induction paths generalizing res with
  | nil => exact h
  | cons kp paths ih =>
    obtain ⟨hkp, hp⟩ := List.forall_mem_cons.mp hp
    exact ih _ hp (forall_upsert h (fun _ _ => hkp) hkp)

/-- **C12 (all pairs).** Every path stored under the key `(a, b)` is a genuine time-respecting path leaving `a`,
    and `(a, b)` is (first node, last node) of the path. -/
theorem C12_all_sound (g : Graph) (hids : g.ids.Pairwise (· < ·)) (start stop minT : Option Int)
    (res : List ((Node × Node) × List TPath)) (h : g.allTimeRespectingPaths start stop minT = .ok res) :
    ∀ kp ∈ res, ∀ p ∈ kp.2, ValidTRP g kp.1.1 none (dagWindow g start stop) p ∧ kp.1 = pathKey p := by
  refine foldlM_prefix_inv (R := fun _ _ => True) _ (fun _ res => ∀ kp ∈ res, ∀ p ∈ kp.2,
    ValidTRP g kp.1.1 none (dagWindow g start stop) p ∧ kp.1 = pathKey p) ?_ _ [] [] res
    (List.pairwise_of_forall fun _ _ => trivial) nofun (c13_all_eq_foldlM .. ▸ h)
  intro _ u st st' _ hst hstep
  unfold c13_allStep at hstep
  split at hstep
  · cases hstep
  · next paths hpaths =>
    obtain rfl := Except.ok.inj hstep
    refine c12_allMerge_inv _ u paths st (fun kp hkp p hp => ?_) hst
    obtain ⟨hv, hk⟩ := C12_sound g hids u none start stop paths hpaths kp hkp p hp
    refine ⟨hv, ?_⟩
    rw [← hk, ← c12_pathKey_fst hv, ← hk]

/- `decide` on the results below needs `DecidableEq` at this type: the search for the instance of the nested product and
   list gives up by itself, and goes through at the element type. -/
local instance c12_decGroup : DecidableEq ((Node × Node) × List TPath) := inferInstance

example : (c15G.timeRespectingPaths 1 none none none).toOption =
    some [((1, 2), [[(1, 2, 0)], [(1, 2, 1)]]), ((1, 3), [[(1, 2, 0), (2, 3, 1)]])] := by
  unfold Graph.timeRespectingPaths Graph.temporalDag
  rw [c15G_ids]
  decide

theorem c15G_paths13 :
    c15G.timeRespectingPaths 1 (some 3) none none = .ok [((1, 3), [[(1, 2, 0), (2, 3, 1)]])] := by
  unfold Graph.timeRespectingPaths Graph.temporalDag
  rw [c15G_ids]
  rfl

example : (c15G.timeRespectingPaths 1 (some 3) none none).toOption =
    some [((1, 3), [[(1, 2, 0), (2, 3, 1)]])] := by
  rw [c15G_paths13]
  rfl

example : (c15G.allTimeRespectingPaths none none none).toOption =
    some [((1, 2), [[(1, 2, 0)], [(1, 2, 1)]]), ((1, 3), [[(1, 2, 0), (2, 3, 1)]]),
      ((2, 1), [[(2, 1, 0)], [(2, 1, 1)]]), ((2, 3), [[(2, 3, 1)]]), ((3, 2), [[(3, 2, 1)]])] := by
  unfold Graph.allTimeRespectingPaths Graph.timeRespectingPaths Graph.temporalDag
  rw [c15G_ids]
  decide +kernel

/-- the DAG of `c15G` rooted at 1 has the path 1@0 → 2@0 → 1@1 → 2@1 whose inner occurrence 1@1 is also a source;
    its hops `(1,2,0), (2,1,1), (1,2,1)` are rejected by the filter (reversal, and two hops at instant 1) -/
example : simplePaths ⟨[((1, 0), 2, 0), ((1, 1), 2, 1), ((2, 0), 1, 1), ((2, 0), 3, 1)], [], [], []⟩ (1, 0) (2, 1) =
    [[(1, 0), (2, 0), (1, 1), (2, 1)]] := by decide

example : hopsOf [(1, 0), (2, 0), (1, 1), (2, 1)] = [(1, 2, 0), (2, 1, 1), (1, 2, 1)] ∧
    pingPongOk (hopsOf [(1, 0), (2, 0), (1, 1), (2, 1)]) = false ∧
    pingPongOk (hopsOf [(1, 0), (2, 0), (3, 1)]) = true := by decide

/-- the theorem applied: the path 1 –0→ 2 –1→ 3 of `c15G` is a valid time-respecting path from 1 to 3 -/
example : ValidTRP c15G 1 (some 3) (dagWindow c15G none none) [(1, 2, 0), (2, 3, 1)] := by
  have hids : c15G.ids.Pairwise (· < ·) := by rw [c15G_ids]; decide
  exact (C12_sound c15G hids 1 (some 3) none none _ c15G_paths13 _ (List.mem_singleton.mpr rfl) _
    (List.mem_singleton.mpr rfl)).1

end Dynetx
