import DynetxProofs.Lemmas.Accum
import DynetxProofs.WFAll
/-
  `Graph.empty d true` is a fresh removal-enabled DynGraph (d = false) / DynDiGraph (d = true); a history is a list of `Op`
  (add_interaction, add_interactions_from, add_path, add_star, add_cycle in method or functional form), `Graph.run`
  executes it call by call, `Graph.runLog` lists the spans of the calls that were accepted.
-/
namespace Dynetx

/-- C01 (presence): after any history, `has_interaction(a,b,x)` holds exactly when `x` lies in a span
    accepted for that pair (unordered on DynGraph, ordered on DynDiGraph). -/
theorem C01_presence (d : Bool) (ops : List Op) (a b : Node) (x : Int) :
    ((Graph.empty d true).run ops).1.hasInteraction a b (some x) = true ↔
      inLog d ((Graph.empty d true).runLog ops) a b x :=
  presence_history d ops a b x

/-- C01 (flattened): `has_interaction(a,b)` without `t` holds iff some (non-empty) span of the pair was accepted. -/
theorem C01_flat (d : Bool) (ops : List Op) (a b : Node) :
    ((Graph.empty d true).run ops).1.hasInteraction a b none = true ↔
      everLogged d ((Graph.empty d true).runLog ops) a b := by
  have r := history_ok d ops
  rw [r.wf.flat_iff_exists r.removal]
  constructor
  · rintro ⟨x, hx⟩
    obtain ⟨s, hs, hk, _⟩ := (C01_presence d ops a b x).mp hx
    exact ⟨s, hs, hk⟩
  · rintro ⟨s, hs, hk⟩
    refine ⟨s.2.2.1, (C01_presence d ops a b s.2.2.1).mpr ⟨s, hs, hk, Int.le_refl _, ?_⟩⟩
    exact runLog_span_le _ ops s hs

/-- C01 (outcomes): every call of a history either succeeds or raises ValueError / NetworkXError;
    no other exception (KeyError, IndexError, ...) can escape. -/
theorem C01_outcomes (d : Bool) (ops : List Op) :
    ∀ o ∈ ((Graph.empty d true).run ops).2, o = none ∨ o = some .value ∨ o = some .networkx :=
  (history_ok d ops).outcomes

/-- C01 (rule): in any reachable state, `add_interaction(u,v,t,e)` raises NetworkXError iff `t` is missing,
    and, for a non-empty span, ValueError iff the span starts before the start of the pair's latest run
    (the head of the stored timeline); otherwise it succeeds. -/
theorem C01_rule (d : Bool) (ops : List Op) (u v : Node) (t0 : Int) (e : Option Int) (t1 : Int)
    (hs : spanEnd t0 e = some t1) :
    let g := ((Graph.empty d true).run ops).1
    ((g.addInteraction u v none e).2 = some .networkx) ∧
    ((g.addInteraction u v (some t0) e).2 = some .value ↔
      ∃ ed a b rest, g.findEdge u v = some ed ∧ ed.tl = (a, b) :: rest ∧ t0 < a) ∧
    ((g.addInteraction u v (some t0) e).2 = none ∨ (g.addInteraction u v (some t0) e).2 = some .value) := by
  intro g
  have r := history_ok d ops
  have sp := addInteraction_stepSpec g r.wf r.removal u v t0 e t1 hs
  exact ⟨rfl, sp.rejected_iff, sp.outcome.imp_right And.left⟩

/-- C01 (never removes presence; other pairs untouched): one more call changes presence only by adding
    the accepted spans of that call. -/
theorem C01_step (d : Bool) (ops : List Op) (op : Op) (a b : Node) (x : Int) :
    let g := ((Graph.empty d true).run ops).1
    (g.step op).1.hasInteraction a b (some x) = true ↔
      g.hasInteraction a b (some x) = true ∨ inLog d (g.stepLog op) a b x := by
  intro g
  have r := history_ok d ops
  have s := step_ok g r.wf r.removal op
  have hd : g.directed = d := r.directed
  rw [s.presence, hd]

/-- C03 (histories): the timeline exposed for a pair is a list of `[start,end]` with `start ≤ end`,
    strictly increasing with at least one absent instant between consecutive intervals (`CanonAsc`),
    its union is exactly the pair's presence set, and on DynGraph both endpoint orders expose the same list. -/
theorem C03_history (d : Bool) (ops : List Op) (u v : Node) (tl : List Span)
    (h : ((Graph.empty d true).run ops).1.timeline u v = some tl) :
    let g := ((Graph.empty d true).run ops).1
    CanonAsc tl ∧ (∀ x, memTl tl x ↔ g.hasInteraction u v (some x) = true) ∧
      (d = false → g.timeline v u = some tl) := by
  have := C03_derived_canonical _ (fullInv_history d ops) u v tl h
  exact ⟨this.1, this.2, fun hd => by rw [wfa_C03_symmetric _ (by rw [run_directed]; exact hd), h]⟩

/-- C04 (ids): `temporal_snapshots_ids()` is strictly increasing (ascending, duplicate-free) and contains
    exactly the instants at which some interaction is present. -/
theorem C04_ids (d : Bool) (ops : List Op) :
    let g := ((Graph.empty d true).run ops).1
    g.ids.Pairwise (fun a b => a < b) ∧ ∀ x, x ∈ g.ids ↔ ∃ a b, g.hasInteraction a b (some x) = true := by
  have h := fullInv_history d ops
  have := wfa_C04 _ h.wf h.removal h.snap h.ev
  exact ⟨this.1, this.2.1⟩

/-- C04 (counts): the stored counter of every instant `x` — `interactions_per_snapshots(x)` is half of it,
    0 when `x` is no key — is twice the number of stored pairs present at `x`; stored pairs are pairwise
    distinct interactions (`WF.keys`) and a stored pair is counted iff `has_interaction` reports it. -/
theorem C04_counts (d : Bool) (ops : List Op) (x : Int) :
    let g := ((Graph.empty d true).run ops).1
    g.ips2 x = 2 * (g.edges.filter (fun e => g.hasInteraction e.u e.v (some x))).length ∧
    g.edges.Pairwise (fun e f => sameKey g.directed e.u e.v f.u f.v = false) ∧
    (∀ a b, g.hasInteraction a b (some x) = true → ∃ e ∈ g.edges, sameKey g.directed e.u e.v a b = true) := by
  intro g
  have h := fullInv_history d ops
  refine ⟨(wfa_C04 g h.wf h.removal h.snap h.ev).2.2 x, h.wf.keys, fun a b hab => ?_⟩
  obtain ⟨e, he, hk, _⟩ := (h.wf.hasInteraction_iff h.removal a b x).mp hab
  exact ⟨e, he, hk⟩

/-- C04 (dictionary form and mean): the keys of `interactions_per_snapshots()` are the snapshot ids, and
    `avg_number_of_nodes()` is the sum of `number_of_nodes(t)` over the ids divided by their number. -/
theorem C04_avg (d : Bool) (ops : List Op) :
    let g := ((Graph.empty d true).run ops).1
    (∀ x, x ∈ g.snaps.map (·.1) ↔ x ∈ g.ids) ∧
    g.avgNumberOfNodes = ((g.ids.map (fun t => g.numberOfNodes (some t))).foldl (· + ·) 0, g.ids.length) := by
  intro g
  refine ⟨fun x => (mem_ids g x).symm, ?_⟩
  unfold Graph.avgNumberOfNodes
  rw [ids_length]

/-- C07 (single call): whatever `add_interaction` raises, the whole state (nodes, timelines, events,
    snapshot counters, attributes) is the state before the call.  Both classes, both modes, any state. -/
theorem C07_single (g : Graph) (u v : Node) (t e : Option Int) (err : Err)
    (h : (g.addInteraction u v t e).2 = some err) : (g.addInteraction u v t e).1 = g :=
  addInteraction_error_unchanged g u v t e err h

/-- C07 (continuation): a history with a rejected single call ends in the same state as the history
    without it. -/
theorem C07_continuation (g : Graph) (u v : Node) (t e : Option Int) (err : Err) (rest : List Op)
    (h : (g.step (Op.add u v t e)).2 = some err) :
    (g.run (Op.add u v t e :: rest)).1 = (g.run rest).1 := by
  rw [step_add] at h
  show ((g.step (Op.add u v t e)).1.run rest).1 = _
  rw [step_add, addInteraction_error_unchanged g u v t e err h]

/-- C07 (bulk helpers): when a bulk call fails, the state is exactly the state after the elements that
    preceded the failing one (which were all accepted), and a missing `t` fails before anything is done. -/
theorem C07_bulk (g : Graph) (op : Op) (err : Err) (h : (g.step op).2 = some err) :
    (op.t = none ∧ (g.step op).1 = g) ∨
    ∃ k, k < op.pairs.length ∧ g.addFromGo (op.pairs.take k) op.t op.e = ((g.step op).1, none) := by
  obtain ⟨pairs, _ | t0, e⟩ := op
  · exact .inl ⟨rfl, rfl⟩
  · exact .inr (addFromGo_failure_prefix g pairs (some t0) e _ err (Prod.ext rfl h))

/-- C08 (presence): on a graph created with edge_removal=False, after any history, the pair is present at
    `x` iff it was ever accepted and `first accepted t ≤ x ≤ largest accepted t of the graph`
    (the largest accepted `t` is the largest snapshot id, see `C08_ids`). -/
theorem C08_presence (d : Bool) (ops : List Op) (a b : Node) (x : Int) :
    let g := ((Graph.empty d false).run ops).1
    let log := (Graph.empty d false).runLog ops
    g.hasInteraction a b (some x) = true ↔
      ∃ t0 m, firstLogged d log a b = some t0 ∧ maxList (log.map (·.2.2.1)) = some m ∧ t0 ≤ x ∧ x ≤ m := by
  intro g log
  have := (accInv_history d ops).presence (run_removal _ ops) a b x
  rwa [run_directed] at this

/-- C08 (stream): exactly one event per stored pair, a '+' at the time of its first accepted add, and no
    '-' event at all; `stream_interactions()` is a chronological permutation of these. -/
theorem C08_stream (d : Bool) (ops : List Op) :
    let g := ((Graph.empty d false).run ops).1
    let log := (Graph.empty d false).runLog ops
    g.events = g.edges.map (fun e => ({ t := oldestStart e.tl, u := e.u, v := e.v, plus := true } : Ev)) ∧
    (∀ e ∈ g.edges, firstLogged d log e.u e.v = some (oldestStart e.tl)) ∧
    g.edges.Pairwise (fun e f => sameKey d e.u e.v f.u f.v = false) ∧
    (∀ s ∈ log, ∃ e ∈ g.edges, sameKey d e.u e.v s.1 s.2.1 = true) ∧
    g.stream.Perm g.events ∧ (g.stream.map (·.t)).Pairwise (· ≤ ·) := by
  intro g log
  have hd : g.directed = d := run_directed _ ops
  have inv : AccInv g log := accInv_history d ops
  refine ⟨inv.events, fun e he => by rw [← hd]; exact (inv.first e he).2, by rw [← hd]; exact inv.keys,
    fun s hs => by rw [← hd]; exact inv.logged s hs, List.mergeSort_perm _ _, stream_chronological g⟩

/-- C08 (ids): the snapshot ids are exactly the instants at which some add was accepted; calls raise
    nothing but ValueError / NetworkXError. -/
theorem C08_ids (d : Bool) (ops : List Op) :
    let g := ((Graph.empty d false).run ops).1
    let log := (Graph.empty d false).runLog ops
    (∀ x, x ∈ g.ids ↔ ∃ s ∈ log, s.2.2.1 = x) ∧
    (∀ o ∈ ((Graph.empty d false).run ops).2, o = none ∨ o = some .value ∨ o = some .networkx) := by
  intro g log
  exact ⟨fun x => (mem_ids g x).trans ((accInv_history d ops).snaps x),
    (run_accInv (Graph.empty d false) rfl [] (AccInv.empty d) ops).2⟩

-- the model run on concrete histories: a rejected call, a merge across the two endpoint orders, the path and cycle
-- forms, accumulative presence and its log

example : ((Graph.empty false true).run [Op.add 1 2 (some 2) (some 6), Op.add 2 1 (some 4) (some 9), Op.add 1 2 (some 1) none]).2
    = [none, none, some .value] := by decide
example : ((Graph.empty false true).run [Op.add 1 2 (some 2) (some 6), Op.add 2 1 (some 4) (some 9)]).1.timeline 2 1
    = some [(2, 8)] := by decide
example : ((Graph.empty true true).run [Op.path [1, 2, 3] (some 0), Op.cycle [3, 1] (some 5)]).1.hasInteraction 3 1 (some 5) = true := by decide
example : ((Graph.empty false false).run [Op.add 1 2 (some 3) (some 4), Op.add 3 4 (some 7) none]).1.hasInteraction 2 1 (some 6) = true := by decide
example : ((Graph.empty false false).runLog [Op.add 1 2 (some 3) (some 4), Op.add 3 4 (some 7) none, Op.add 1 2 (some 1) none])
    = [(1, 2, 3, 3), (3, 4, 7, 7)] := by decide

end Dynetx
