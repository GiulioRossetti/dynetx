import DynetxProofs.TextRows
import DynetxProofs.Lemmas.Lists
/- C18, text layer: the readers skip noise lines; the graph read is the graph of the remaining rows. -/

namespace Dynetx

open List

theorem splitOnChar_eq_splitOn (d : Char) (l : List Char) : splitOnChar d l = l.splitOn d := by
  induction l with
  | nil => rfl
  | cons c cs ih =>
    rw [splitOnChar, ih, splitOn_cons_eq_if_modifyHead]
    obtain ⟨f, fs, h⟩ := exists_cons_of_ne_nil (splitOn_ne_nil d cs)
    rw [h]; rfl

theorem stripL_eq (l : List Char) : stripL l = l.dropWhile isWs := by
  induction l with
  | nil => rfl
  | cons c cs ih => rw [stripL, dropWhile_cons, ih]

theorem cutComment_eq (cm : Char) (l : List Char) : cutComment cm l = l.takeWhile (· != cm) := by
  induction l with
  | nil => rfl
  | cons c cs ih =>
    rw [cutComment, takeWhile_cons, ih, bne]
    cases c == cm <;> rfl

theorem cutComment_prefix (cm : Char) (l : List Char) : cutComment cm l <+: l :=
  cutComment_eq cm l ▸ takeWhile_prefix _

def c18t_cleanS (cm : Char) (delim : Option Char) :
    List (List Char) → List (Node × Node × Int × Option Int) × Bool
  | [] => ([], false)
  | l :: rest =>
    match snapRow cm delim l with
    | .skip => c18t_cleanS cm delim rest
    | .bad => ([], true)
    | .row u v t e => ((u, v, t, e) :: (c18t_cleanS cm delim rest).1, (c18t_cleanS cm delim rest).2)

def c18t_cleanI (cm : Char) (delim : Option Char) : List (List Char) → List Ev × Bool
  | [] => ([], false)
  | l :: rest =>
    match intRow cm delim l with
    | .skip => c18t_cleanI cm delim rest
    | .bad => ([], true)
    | .row r => (r :: (c18t_cleanI cm delim rest).1, (c18t_cleanI cm delim rest).2)

def c18t_finish (r : Graph × Option Err) (bad : Bool) : Graph × Option Err :=
  if r.2.isSome then r else if bad then (r.1, some .type) else r

theorem c18t_finish_false (r : Graph × Option Err) : c18t_finish r false = r := by
  unfold c18t_finish
  cases r.2.isSome <;> rfl

theorem c18t_finish_fst (r : Graph × Option Err) (bad : Bool) : (c18t_finish r bad).1 = r.1 := by
  unfold c18t_finish
  cases r.2.isSome <;> cases bad <;> rfl

/-- `clean` gives the rows before the first refused line of a text classified by `cls`, and whether there is one:
    stated by its equations, so that `c18t_cleanS` and `c18t_cleanI` are instances.  `stop` has `e = .type` because
    `c18t_finish` reports `.type` only: the several-character readers (C18Multi.lean), whose lines can also stop with
    `.value` (empty separator), are no instance and have no noise theorem. -/
structure CleanOf {α ρ : Type} (cls : α → Line ρ) (bad : α → Prop) (clean : List α → List ρ × Bool) :
    Prop where
  nil : clean [] = ([], false)
  cons : ∀ a rest, clean (a :: rest) =
    match cls a with
    | .skip => clean rest
    | .stop _ => ([], true)
    | .row r => (r :: (clean rest).1, (clean rest).2)
  stop : ∀ a e, cls a = .stop e → bad a ∧ e = .type

section
variable {α ρ : Type} {cls : α → Line ρ} {bad : α → Prop} {clean : List α → List ρ × Bool}

theorem CleanOf.fold_eq (h : CleanOf cls bad clean) (step : Graph → ρ → Graph × Option Err) (g : Graph)
    (l : List α) :
    foldExit (lineStep step) g (l.map cls) = c18t_finish (foldExit step g (clean l).1) (clean l).2 := by
  induction l generalizing g with
  | nil => rw [h.nil]; rfl
  | cons a rest ih =>
    rw [List.map_cons, foldExit, h.cons]
    cases hc : cls a with
    | skip => exact ih g
    | stop e => cases (h.stop a e hc).2; rfl
    | row r =>
      simp only [lineStep, foldExit]
      rcases step g r with ⟨g', _ | e⟩
      · exact ih g'
      · rfl

theorem CleanOf.flag_false (h : CleanOf cls bad clean) (l : List α) (hl : ∀ a ∈ l, ¬ bad a) :
    (clean l).2 = false := by
  induction l with
  | nil => rw [h.nil]
  | cons a rest ih =>
    have ih := ih fun a ha => hl a (mem_cons_of_mem _ ha)
    have := hl a mem_cons_self
    rw [h.cons]
    cases hc : cls a with
    | stop e => exact absurd (h.stop a e hc).1 this
    | _ => exact ih

end

theorem c18t_cleanS_of (cm : Char) (delim : Option Char) :
    CleanOf (fun l => (snapRow cm delim l).line) (snapRow cm delim · = .bad) (c18t_cleanS cm delim) where
  nil := rfl
  cons l rest := by rw [c18t_cleanS]; cases snapRow cm delim l <;> rfl
  stop _ _ := RowS.line_stop

theorem c18t_cleanI_of (cm : Char) (delim : Option Char) :
    CleanOf (fun l => (intRow cm delim l).line) (intRow cm delim · = .bad) (c18t_cleanI cm delim) where
  nil := rfl
  cons l rest := by rw [c18t_cleanI]; cases intRow cm delim l <;> rfl
  stop _ _ := RowI.line_stop

theorem parseSnapshotsText_go_eq (cm : Char) (delim : Option Char) (g : Graph) (lines : List (List Char)) :
    parseSnapshotsText.go cm delim g lines
      = foldExit (lineStep addRow) g (lines.map fun l => (snapRow cm delim l).line) :=
  foldExit_unique (fun _ => rfl) (fun g l rest => by
    rw [parseSnapshotsText.go]; cases snapRow cm delim l <;> rfl) g lines

theorem parseInteractionsText_go_eq (cm : Char) (delim : Option Char) (g : Graph) (lines : List (List Char)) :
    parseInteractionsText.go cm delim g lines
      = foldExit (lineStep Graph.replayRow) g (lines.map fun l => (intRow cm delim l).line) :=
  foldExit_unique (fun _ => rfl) (fun g l rest => by
    rw [parseInteractionsText.go]; cases intRow cm delim l <;> rfl) g lines

theorem c18t_goS (cm : Char) (delim : Option Char) (g : Graph) (lines : List (List Char)) :
    parseSnapshotsText.go cm delim g lines
      = c18t_finish (g.addMany (c18t_cleanS cm delim lines).1) (c18t_cleanS cm delim lines).2 := by
  rw [parseSnapshotsText_go_eq, (c18t_cleanS_of cm delim).fold_eq, addMany_eq]

theorem c18t_goI (cm : Char) (delim : Option Char) (g : Graph) (lines : List (List Char)) :
    parseInteractionsText.go cm delim g lines
      = c18t_finish (g.replayRows (c18t_cleanI cm delim lines).1) (c18t_cleanI cm delim lines).2 := by
  rw [parseInteractionsText_go_eq, (c18t_cleanI_of cm delim).fold_eq, replayRows_eq]

/-- **C18 (noise, snapshots).**  The reader returns what `parse_snapshots` returns on the rows before the first
    unconvertible line, and `TypeError` for that line unless a row failed before it; skipped lines leave no trace. -/
theorem C18_snapshots_noise (directed : Bool) (cm : Char) (delim : Option Char) (lines : List (List Char)) :
    parseSnapshotsText directed cm delim lines
      = (let (rows, bad) := c18t_cleanS cm delim lines
         let r := (Graph.empty directed true).addMany rows
         if r.2.isSome then r else if bad then (r.1, some .type) else r) :=
  c18t_goS ..

theorem C18_snapshots_clean (directed : Bool) (cm : Char) (delim : Option Char) (lines : List (List Char))
    (hclean : ∀ l ∈ lines, snapRow cm delim l ≠ .bad) :
    parseSnapshotsText directed cm delim lines
      = parseSnapshots directed (c18t_cleanS cm delim lines).1 := by
  unfold parseSnapshotsText
  rw [c18t_goS, (c18t_cleanS_of cm delim).flag_false lines hclean, c18t_finish_false]
  rfl

/-- **C18 (noise, interactions).**  The same for `parse_interactions`. -/
theorem C18_interactions_noise (directed : Bool) (cm : Char) (delim : Option Char) (lines : List (List Char)) :
    parseInteractionsText directed cm delim lines
      = (let (rows, bad) := c18t_cleanI cm delim lines
         let r := (Graph.empty directed true).replayRows rows
         if r.2.isSome then r else if bad then (r.1, some .type) else r) :=
  c18t_goI ..

theorem C18_interactions_clean (directed : Bool) (cm : Char) (delim : Option Char) (lines : List (List Char))
    (hclean : ∀ l ∈ lines, intRow cm delim l ≠ .bad) :
    parseInteractionsText directed cm delim lines
      = parseInteractions directed (c18t_cleanI cm delim lines).1 := by
  unfold parseInteractionsText
  rw [c18t_goI, (c18t_cleanI_of cm delim).flag_false lines hclean, c18t_finish_false]
  rfl

theorem rows_blank {cm : Char} {delim : Option Char} {l : List Char} (h : strip (cutComment cm l) = []) :
    snapRow cm delim l = .skip ∧ intRow cm delim l = .skip := by
  rw [snapRow_content, intRow_content, h]
  cases delim <;> exact ⟨rfl, rfl⟩

theorem C18_skip_empty (cm : Char) (delim : Option Char) :
    snapRow cm delim [] = .skip ∧ intRow cm delim [] = .skip :=
  rows_blank rfl

theorem C18_skip_comment (cm : Char) (delim : Option Char) (rest : List Char) :
    snapRow cm delim (cm :: rest) = .skip ∧ intRow cm delim (cm :: rest) = .skip :=
  rows_blank (by rw [cutComment, if_pos (beq_iff_eq.mpr rfl)]; rfl)

theorem cutComment_append (cm : Char) (l r : List Char) :
    ∃ x, x <+: cutComment cm r ∧ cutComment cm (l ++ r) = cutComment cm l ++ x := by
  induction l with
  | nil => exact ⟨_, prefix_rfl, rfl⟩
  | cons c cs ih =>
    rw [cons_append, cutComment, cutComment]
    cases c == cm
    · exact ih.imp fun x h => ⟨h.1, congrArg (c :: ·) h.2⟩
    · exact ⟨[], nil_prefix, rfl⟩

theorem c18t_cutComment_notin (cm : Char) (l : List Char) (h : cm ∉ l) : cutComment cm l = l := by
  induction l with
  | nil => rfl
  | cons c cs ih =>
    rw [cutComment, if_neg fun e => h (mem_cons.mpr (.inl (eq_of_beq e).symm)), ih fun hm => h (mem_cons_of_mem _ hm)]

theorem c18t_stripL_ws (l : List Char) (h : ∀ c ∈ l, isWs c = true) : stripL l = [] := by
  induction l with
  | nil => rfl
  | cons c cs ih => rw [stripL, if_pos (h c mem_cons_self), ih fun c hc => h c (mem_cons_of_mem _ hc)]

theorem strip_cutComment_ws (cm : Char) (w : List Char) (hw : ∀ c ∈ w, isWs c = true) :
    strip (cutComment cm w) = [] := by
  rw [strip, c18t_stripL_ws (cutComment cm w) fun c hc => hw c ((cutComment_prefix cm w).subset hc)]
  rfl

/-- `hcm` is not used: cut at a marker, a line of white space is still one -/
theorem C18_skip_blank (cm : Char) (l : List Char) (h : ∀ c ∈ l, isWs c = true)
    (hcm : ∀ c ∈ l, c ≠ cm) : snapRow cm none l = .skip ∧ intRow cm none l = .skip :=
  rows_blank (strip_cutComment_ws cm l h)

/-- nothing is asked of `d`: `split(d)` of the empty stripped line is the single empty field.  `hcm` is not used -/
theorem C18_skip_blank_delim (cm d : Char) (l : List Char) (h : ∀ c ∈ l, isWs c = true)
    (hcm : ∀ c ∈ l, c ≠ cm) :
    snapRow cm (some d) l = .skip ∧ intRow cm (some d) l = .skip :=
  rows_blank (strip_cutComment_ws cm l h)

theorem C18_comment_ignored_fields (cm : Char) (delim : Option Char) (l rest : List Char) :
    fieldsOf cm delim (l ++ cm :: rest) = fieldsOf cm delim l := by
  obtain ⟨x, hx, e⟩ := cutComment_append cm l (cm :: rest)
  rw [cutComment, if_pos (beq_iff_eq.mpr rfl), prefix_nil] at hx
  unfold fieldsOf
  rw [e, hx, append_nil]

/-- `h` is not used: the cut is at the first marker, in `l` or not -/
theorem C18_comment_ignored (cm : Char) (delim : Option Char) (l rest : List Char) (h : cm ∉ l) :
    snapRow cm delim (l ++ cm :: rest) = snapRow cm delim l
      ∧ intRow cm delim (l ++ cm :: rest) = intRow cm delim l := by
  unfold snapRow intRow
  rw [C18_comment_ignored_fields cm delim l rest]
  exact ⟨rfl, rfl⟩

theorem C18_short_rows (cm : Char) (delim : Option Char) (line : List Char) (fs : List (List Char))
    (hf : fieldsOf cm delim line = some fs) :
    (fs.length < 3 → snapRow cm delim line = .skip) ∧ (fs.length ≠ 4 → intRow cm delim line = .skip) := by
  rw [snapRow_eq, intRow_eq, hf]
  exact ⟨snapOfFields_short, intOfFields_short⟩

/-- `.bad` is the `TypeError` of a conversion, and only a field the row uses can raise it: not the op of an
    interaction line, nor a fifth field -/
theorem C18_bad_iff (cm : Char) (delim : Option Char) (line : List Char) :
    (snapRow cm delim line = .bad ↔
      ∃ fs, fieldsOf cm delim line = some fs ∧ ∃ h3 : 3 ≤ fs.length,
        (nodeOf fs[0] = none ∨ nodeOf fs[1] = none ∨ intOf fs[2] = none
          ∨ ∃ h4 : 4 ≤ fs.length, intOf fs[3] = none))
    ∧ (intRow cm delim line = .bad ↔
      ∃ fs, fieldsOf cm delim line = some fs ∧ ∃ h4 : fs.length = 4,
        (nodeOf fs[0] = none ∨ nodeOf fs[1] = none ∨ intOf fs[3] = none)) := by
  constructor
  · rw [snapRow_eq, fieldsOf_match_iff RowS.skip .bad nofun]
    refine exists_congr fun fs => and_congr_right fun _ => ?_
    by_cases h3 : 3 ≤ fs.length
    · rw [exists_prop_of_true h3]
      -- `rcases`, not `match fs, h3 with`: that abstracts the bound proofs of the seven `fs[i]`, at three times the cost
      rcases fs with _ | ⟨u, _ | ⟨v, _ | ⟨t, _ | ⟨e, rest⟩⟩⟩⟩
      · contradiction
      · contradiction
      · contradiction
      · exact (snapOfFields_three_bad ..).trans (or_congr_right (or_congr_right
          (or_iff_left fun h => h.elim fun h4 _ => absurd h4 (by decide : ¬ 4 ≤ 3)).symm))
      · exact (snapOfFields_four_bad ..).trans (or_congr_right (or_congr_right (or_congr_right
          ⟨fun h => ⟨Nat.le_add_left 4 _, h⟩, fun h => h.elim fun _ h => h⟩)))
    · rw [snapOfFields_short (Nat.lt_of_not_le h3)]
      exact ⟨nofun, fun h => h.elim fun h _ => absurd h h3⟩
  · rw [intRow_eq, fieldsOf_match_iff RowI.skip .bad nofun]
    refine exists_congr fun fs => and_congr_right fun _ => ?_
    by_cases h4 : fs.length = 4
    · rw [exists_prop_of_true h4]
      rcases fs with _ | ⟨u, _ | ⟨v, _ | ⟨op, _ | ⟨t, _ | _⟩⟩⟩⟩
      case cons.cons.cons.cons.nil => exact intOfFields_four_bad ..
      all_goals cases h4
    · rw [intOfFields_short h4]
      exact ⟨nofun, fun h => h.elim fun h _ => absurd h h4⟩

/-- `h4` is not used: `take 4` of a shorter list is that list -/
theorem C18_extra_columns (cm : Char) (delim : Option Char) (line line' : List Char)
    (fs : List (List Char)) (hf : fieldsOf cm delim line = some fs) (h4 : 4 ≤ fs.length)
    (hf' : fieldsOf cm delim line' = some (fs.take 4)) :
    snapRow cm delim line = snapRow cm delim line' := by
  rw [snapRow_eq, snapRow_eq, hf, hf']
  exact (snapOfFields_take fs).symm

theorem C18_extra_columns_value (cm : Char) (delim : Option Char) (line : List Char)
    (u v t e : List Char) (extra : List (List Char))
    (hf : fieldsOf cm delim line = some (u :: v :: t :: e :: extra)) :
    snapRow cm delim line =
      (match nodeOf u, nodeOf v, intOf t, intOf e with
        | some u, some v, some t, some e => .row u v t (some e)
        | _, _, _, _ => .bad) := by
  rw [snapRow_eq, hf]
  rfl

/-- `d.join(fs)`: the text of the writers' `joinFields` (DynetxModel/Text.lean) a second time.  `C18_delimiter_fields`
    and `C18_whitespace_fields` are stated on this one, everything else on `joinFields` -/
def c18t_join (d : Char) : List (List Char) → List Char
  | [] => []
  | [f] => f
  | f :: g :: fs => f ++ d :: c18t_join d (g :: fs)

theorem txt_joinFields_eq (d : Char) (fs : List (List Char)) : joinFields d fs = c18t_join d fs := by
  induction fs with
  | nil => rfl
  | cons f rest ih =>
    cases rest with
    | nil => rfl
    | cons g gs => simp only [joinFields, c18t_join, ih]

theorem c18t_join_eq (d : Char) (fs : List (List Char)) : c18t_join d fs = [d].intercalate fs := by
  induction fs with
  | nil => rfl
  | cons f rest ih =>
    cases rest with
    | nil => exact intercalate_singleton.symm
    | cons g gs => rw [c18t_join, ih, intercalate_cons_cons]; simp

theorem c18t_splitOnChar_join (d : Char) (fs : List (List Char)) (hne : fs ≠ [])
    (h : ∀ f ∈ fs, d ∉ f) : splitOnChar d (c18t_join d fs) = fs := by
  rw [splitOnChar_eq_splitOn, c18t_join_eq, splitOn_intercalate d h hne]

theorem splitWs_go_eq (cur l : List Char) :
    splitWs.go cur l = (splitOnPPrepend isWs l cur).filter (!·.isEmpty) := by
  induction l generalizing cur with
  | nil =>
    rw [splitWs.go, splitOnPPrepend_nil, filter_cons, isEmpty_reverse]
    cases cur.isEmpty <;> rfl
  | cons c cs ih =>
    rw [splitWs.go]
    cases hc : isWs c
    · rw [splitOnPPrepend_cons_neg hc, ← ih]; rfl
    · rw [splitOnPPrepend_cons_pos hc, filter_cons, isEmpty_reverse, ih]
      cases cur.isEmpty <;> rfl

theorem splitWs_eq (l : List Char) : splitWs l = (l.splitOnP isWs).filter (!·.isEmpty) := by
  rw [splitWs, splitWs_go_eq, splitOnPPrepend_nil_right]

theorem c18t_splitWs_join (d : Char) (hdw : isWs d = true) (fs : List (List Char)) (hne : ∀ f ∈ fs, f ≠ [])
    (h : ∀ f ∈ fs, ∀ c ∈ f, isWs c = false) : splitWs (c18t_join d fs) = fs := by
  rw [splitWs_eq]
  cases fs with
  | nil => rfl
  | cons f rest =>
    have hsp : (c18t_join d (f :: rest)).splitOnP isWs = f :: rest := by
      induction rest generalizing f with
      | nil => exact splitOnP_eq_singleton (h f mem_cons_self)
      | cons g gs ih =>
        rw [c18t_join, splitOnP_append_cons_of_forall_mem (h f mem_cons_self) d hdw,
          ih g (fun x hx => hne x (mem_cons_of_mem _ hx)) fun x hx => h x (mem_cons_of_mem _ hx)]
    rw [hsp]
    exact filter_eq_self.mpr fun x hx => by simpa using hne x hx

theorem c18t_stripL_head (l : List Char) (h : ∀ c, l.head? = some c → isWs c = false) : stripL l = l := by
  cases l with
  | nil => rfl
  | cons c cs => simp [stripL, h c rfl]

theorem c18t_strip_ends (l : List Char) (h1 : ∀ c, l.head? = some c → isWs c = false)
    (h2 : ∀ c, l.getLast? = some c → isWs c = false) : strip l = l := by
  unfold strip
  rw [c18t_stripL_head l h1, c18t_stripL_head l.reverse (head?_reverse ▸ h2), reverse_reverse]

theorem txt_strip_clean (l : List Char) (h : ∀ c ∈ l, isWs c = false) : strip l = l :=
  c18t_strip_ends l (fun c hc => h c (mem_of_head? hc)) (fun c hc => h c (mem_of_getLast? hc))

/-- the reader's `delim` cuts at the writer's `d`: the same character, or the default `split()` against white space -/
def Reads (delim : Option Char) (d : Char) : Prop := delim = some d ∨ delim = none ∧ isWs d = true

/-- what a reader needs of a written field to give it back -/
structure FieldOK (cm d : Char) (f : List Char) : Prop where
  ne : f ≠ []
  ws : ∀ c ∈ f, isWs c = false
  nocm : cm ∉ f
  nodelim : d ∉ f

/-- a line the reader takes as it stands (`fieldsOf_plain`) -/
structure Plain (cm : Char) (l : List Char) : Prop where
  ne : l ≠ []
  nocm : cm ∉ l
  head : ∀ c, l.head? = some c → isWs c = false
  last : ∀ c, l.getLast? = some c → isWs c = false

theorem fieldsOf_plain {cm : Char} {l : List Char} (h : Plain cm l) (delim : Option Char) :
    fieldsOf cm delim l = some (c18t_split delim l) := by
  rw [c18t_fieldsOf_eq, c18t_cutComment_notin cm _ h.nocm, c18t_strip_ends _ h.head h.last,
    if_neg (mt isEmpty_iff.mp h.ne)]

theorem Plain.join {cm d : Char} (hcd : cm ≠ d) {fs : List (List Char)} (hfs : fs ≠ [])
    (h : ∀ f ∈ fs, FieldOK cm d f) : Plain cm (joinFields d fs) := by
  induction fs with
  | nil => exact absurd rfl hfs
  | cons f rest ih =>
    have hf := h f mem_cons_self
    cases rest with
    | nil => exact ⟨hf.ne, hf.nocm, fun c hc => hf.ws c (mem_of_head? hc), fun c hc => hf.ws c (mem_of_getLast? hc)⟩
    | cons g gs =>
      have ih := ih (cons_ne_nil _ _) fun x hx => h x (mem_cons_of_mem _ hx)
      obtain ⟨a, as, rfl⟩ := exists_cons_of_ne_nil hf.ne
      obtain ⟨b, bs, hb⟩ := exists_cons_of_ne_nil ih.ne
      refine ⟨nofun, fun hm => (mem_append.mp hm).elim hf.nocm fun hm => (mem_cons.mp hm).elim hcd ih.nocm,
        fun c hc => hf.ws c (Option.some.inj hc ▸ mem_cons_self), fun c hc => ih.last c ?_⟩
      rw [joinFields, hb, getLast?_append, getLast?_cons_cons, getLast?_cons, Option.some_or] at hc
      rw [hb, getLast?_cons]; exact hc

theorem C18_delimiter_fields (cm d : Char) (fs : List (List Char)) (hfs : fs ≠ [])
    (hline : c18t_join d fs ≠ [])
    (hd : ∀ f ∈ fs, d ∉ f) (hcm : cm ∉ c18t_join d fs)
    (h1 : ∀ c, (c18t_join d fs).head? = some c → isWs c = false)
    (h2 : ∀ c, (c18t_join d fs).getLast? = some c → isWs c = false) :
    fieldsOf cm (some d) (c18t_join d fs) = some fs :=
  (fieldsOf_plain ⟨hline, hcm, h1, h2⟩ _).trans (congrArg some (c18t_splitOnChar_join d fs hfs hd))

theorem fieldsOf_join {cm d : Char} {delim : Option Char} (hr : Reads delim d) {fs : List (List Char)} (hfs : fs ≠ [])
    (h : ∀ f ∈ fs, FieldOK cm d f) (hcd : cm ≠ d) : fieldsOf cm delim (joinFields d fs) = some fs := by
  rw [fieldsOf_plain (Plain.join hcd hfs h), txt_joinFields_eq]
  rcases hr with rfl | ⟨rfl, hdw⟩
  · exact congrArg some (c18t_splitOnChar_join d fs hfs fun f hf => (h f hf).nodelim)
  · exact congrArg some (c18t_splitWs_join d hdw fs (fun f hf => (h f hf).ne) fun f hf => (h f hf).ws)

theorem C18_whitespace_fields (cm : Char) (fs : List (List Char)) (hfs : fs ≠ [])
    (hne : ∀ f ∈ fs, f ≠ []) (hws : ∀ f ∈ fs, ∀ c ∈ f, isWs c = false)
    (hcm : ∀ f ∈ fs, cm ∉ f) (hcm' : cm ≠ ' ') :
    fieldsOf cm none (c18t_join ' ' fs) = some fs :=
  txt_joinFields_eq ' ' fs ▸ fieldsOf_join (.inr ⟨rfl, rfl⟩) hfs
    (fun f hf => ⟨hne f hf, hws f hf, hcm f hf, fun hm => absurd (hws f hf ' ' hm) (by decide)⟩) hcm'

theorem c18t_idsGo_cons (i : Bool) (cm : Char) (delim : Option Char) (acc : List Int) (l : List Char)
    (rest : List (List Char)) :
    readIdsText.go i cm delim acc (l :: rest) =
      (match (c18t_idFields i (c18t_split delim (strip (cutComment cm l)))).mapM intOf with
        | none => .error .type
        | some ts => readIdsText.go i cm delim (acc ++ ts) rest) := rfl

theorem CleanOf.readIds {ρ : Type} {cls : List Char → Line ρ} {bad : List Char → Prop}
    {clean : List (List Char) → List ρ × Bool}
    (hc : CleanOf cls bad clean) (ts : ρ → List Int) (i : Bool) (cm : Char) (delim : Option Char)
    (hline : ∀ l, ¬ bad l →
      (c18t_idFields i (c18t_split delim (strip (cutComment cm l)))).mapM intOf = some ((cls l).ts ts))
    (lines : List (List Char)) (hclean : ∀ l ∈ lines, ¬ bad l) (acc : List Int) :
    readIdsText.go i cm delim acc lines = .ok (acc ++ (clean lines).1.flatMap ts) := by
  induction lines generalizing acc with
  | nil => rw [hc.nil]; exact congrArg Except.ok (append_nil acc).symm
  | cons l rest ih =>
    rw [c18t_idsGo_cons, hline l (hclean l mem_cons_self)]
    simp only []
    rw [ih (fun x hx => hclean x (mem_cons_of_mem _ hx)), hc.cons]
    cases hcl : cls l with
    | stop e => exact absurd (hc.stop l e hcl).1 (hclean l mem_cons_self)
    | _ => simp [Line.ts]

theorem c18t_readIdsS (cm : Char) (delim : Option Char) (lines : List (List Char))
    (hclean : ∀ l ∈ lines, snapRow cm delim l ≠ .bad) :
    readIdsText false cm delim lines
      = .ok (compactTimeslot (snapshotTimestamps (c18t_cleanS cm delim lines).1)) := by
  unfold readIdsText
  rw [(c18t_cleanS_of cm delim).readIds c18t_tsS false cm delim
    (fun l h => by rw [snapRow_content] at h ⊢; exact snapOfFields_ids h) lines hclean []]
  rfl

theorem c18t_readIdsI (cm : Char) (delim : Option Char) (lines : List (List Char))
    (hclean : ∀ l ∈ lines, intRow cm delim l ≠ .bad) :
    readIdsText true cm delim lines
      = .ok (compactTimeslot (interactionTimestamps (c18t_cleanI cm delim lines).1)) := by
  unfold readIdsText
  rw [(c18t_cleanI_of cm delim).readIds (fun r => [r.t]) true cm delim
    (fun l h => by rw [intRow_content] at h ⊢; exact intOfFields_ids h) lines hclean []]
  rw [← map_eq_flatMap]
  rfl

/-- the `rk` that `C18_keys_snapshots` and `C18_keys_interactions` spell out -/
def c18t_rk (keys : List (Int × Nat)) (t : Int) : Int := ((rankOf keys t).getD 0 : Nat)

def c18t_rankS (rk : Int → Int) (r : Node × Node × Int × Option Int) : Node × Node × Int × Option Int :=
  (r.1, r.2.1, rk r.2.2.1, r.2.2.2.map rk)

theorem c18t_keysGoS (cm : Char) (delim : Option Char) (rk : Int → Int) (g : Graph)
    (lines : List (List Char)) :
    readKeysText.goS cm delim rk g lines
      = c18t_finish (g.addMany ((c18t_cleanS cm delim lines).1.map (c18t_rankS rk)))
          (c18t_cleanS cm delim lines).2 := by
  rw [addMany_eq, foldExit_map, ← (c18t_cleanS_of cm delim).fold_eq]
  exact foldExit_unique (fun _ => rfl) (fun g l rest => by
    rw [readKeysText.goS]; cases snapRow cm delim l <;> rfl) g lines

theorem c18t_keysGoI (cm : Char) (delim : Option Char) (rk : Int → Int) (g : Graph)
    (lines : List (List Char)) :
    readKeysText.goI cm delim rk g lines
      = c18t_finish (g.replayRows ((c18t_cleanI cm delim lines).1.map (fun r => { r with t := rk r.t })))
          (c18t_cleanI cm delim lines).2 := by
  rw [replayRows_eq, foldExit_map, ← (c18t_cleanI_of cm delim).fold_eq]
  exact foldExit_unique (fun _ => rfl) (fun g l rest => by
    rw [readKeysText.goI]; cases intRow cm delim l <;> rfl) g lines

/-- `read_snapshots(keys=True)`, no unconvertible row: the graph of the same rows with every timestamp replaced by
    its rank among the distinct timestamps of the rows -/
theorem C18_keys_snapshots (directed : Bool) (cm : Char) (delim : Option Char) (lines : List (List Char))
    (hclean : ∀ l ∈ lines, snapRow cm delim l ≠ .bad) :
    readKeysText false directed cm delim lines
      = (let rows := (c18t_cleanS cm delim lines).1
         let keys := compactTimeslot (snapshotTimestamps rows)
         let rk (t : Int) : Int := ((rankOf keys t).getD 0 : Nat)
         parseSnapshots directed (rows.map (fun (u, v, t, e) => (u, v, rk t, e.map rk)))) := by
  unfold readKeysText
  rw [c18t_readIdsS cm delim lines hclean]
  simp only [Bool.false_eq_true, if_false]
  rw [c18t_keysGoS, (c18t_cleanS_of cm delim).flag_false lines hclean, c18t_finish_false]
  rfl

/-- the list given to `compact_timeslot` has no duplicates, so C18.lean applies -/
theorem C18_keys_snapshots_nodup (rows : List (Node × Node × Int × Option Int)) :
    (snapshotTimestamps rows).Nodup :=
  nodup_eraseDups _

theorem C18_keys_snapshots_noise (directed : Bool) (cm : Char) (delim : Option Char)
    (lines : List (List Char)) (keys : List (Int × Nat))
    (hk : readIdsText false cm delim lines = .ok keys) :
    readKeysText false directed cm delim lines
      = c18t_finish
          ((Graph.empty directed true).addMany
            ((c18t_cleanS cm delim lines).1.map (c18t_rankS (c18t_rk keys))))
          (c18t_cleanS cm delim lines).2 := by
  unfold readKeysText
  rw [hk]
  simp only [Bool.false_eq_true, if_false]
  rw [c18t_keysGoS]
  rfl

/-- the same for `read_interactions(keys=True)` -/
theorem C18_keys_interactions (directed : Bool) (cm : Char) (delim : Option Char) (lines : List (List Char))
    (hclean : ∀ l ∈ lines, intRow cm delim l ≠ .bad) :
    readKeysText true directed cm delim lines
      = (let rows := (c18t_cleanI cm delim lines).1
         let keys := compactTimeslot (interactionTimestamps rows)
         let rk (t : Int) : Int := ((rankOf keys t).getD 0 : Nat)
         parseInteractions directed (rows.map (fun r => { r with t := rk r.t }))) := by
  unfold readKeysText
  rw [c18t_readIdsI cm delim lines hclean]
  simp only [if_true]
  rw [c18t_keysGoI, (c18t_cleanI_of cm delim).flag_false lines hclean, c18t_finish_false]
  rfl

deriving instance DecidableEq for RowS

-- the literal is made a list first: left to `decide`, `String.toList` costs as much again as the row
example : snapRow '#' none "1 2 3 # c\n".toList = .row 1 2 3 none := by simp only [String.reduceToList]; decide
example : snapRow '#' (some ',') " 4,5,6,9,1 ".toList = .row 4 5 6 (some 9) := by simp only [String.reduceToList]; decide

end Dynetx
