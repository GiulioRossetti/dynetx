import DynetxProofs.C18Text
/-
  C18, text layer: a row is read the same with or without its terminator ('\n', '\r\n', or any run of white space), so a
  file whose last row has no final newline, or a CRLF file, gives the same graph.
-/

namespace Dynetx

open List

theorem c18x_strip_append_ws (l w : List Char) (hw : ∀ c ∈ w, isWs c = true) : strip (l ++ w) = strip l := by
  unfold strip
  -- `dropWhile_append` at either end: from the left `w` is reached only when `l` is white space throughout, and then
  -- nothing is left of either line; from the right `w` goes first
  rw [stripL_eq (l ++ w), dropWhile_append, ← stripL_eq, ← stripL_eq]
  split
  · next h => rw [isEmpty_iff.mp h, c18t_stripL_ws w hw]
  · rw [reverse_append, stripL_eq, dropWhile_append, ← stripL_eq, c18t_stripL_ws _ fun c hc => hw c (mem_reverse.mp hc),
      if_pos isEmpty_nil, ← stripL_eq]

/-- the comment is cut inside the line, or inside the terminator, and what it leaves of the terminator is still white
    space -/
theorem c18x_content (cm : Char) (line w : List Char) (hw : ∀ c ∈ w, isWs c = true) :
    strip (cutComment cm (line ++ w)) = strip (cutComment cm line) := by
  obtain ⟨x, hx, e⟩ := cutComment_append cm line w
  rw [e, c18x_strip_append_ws _ x fun c hc => hw c ((hx.trans (cutComment_prefix cm w)).subset hc)]

/-- `hcm` is not used, here and in the two row theorems below, nor is the half `cm ∉ p.2` of `hw` in the whole-text
    theorems: `c18x_content` needs no such condition -/
theorem C18_terminator_fields (cm : Char) (delim : Option Char) (line w : List Char)
    (hw : ∀ c ∈ w, isWs c = true) (hcm : cm ∉ w) (hne : cutComment cm line ≠ []) :
    fieldsOf cm delim (line ++ w) = fieldsOf cm delim line := by
  have hne' : cutComment cm (line ++ w) ≠ [] := by
    obtain ⟨x, _, e⟩ := cutComment_append cm line w
    exact e ▸ append_ne_nil_of_left_ne_nil hne x
  rw [c18t_fieldsOf_eq, c18t_fieldsOf_eq, c18x_content cm line w hw, if_neg (mt isEmpty_iff.mp hne'),
    if_neg (mt isEmpty_iff.mp hne)]

theorem C18_terminator_snapRow (cm : Char) (delim : Option Char) (line w : List Char)
    (hw : ∀ c ∈ w, isWs c = true) (hcm : cm ∉ w) :
    snapRow cm delim (line ++ w) = snapRow cm delim line := by
  rw [snapRow_content, snapRow_content, c18x_content cm line w hw]

theorem C18_terminator_intRow (cm : Char) (delim : Option Char) (line w : List Char)
    (hw : ∀ c ∈ w, isWs c = true) (hcm : cm ∉ w) :
    intRow cm delim (line ++ w) = intRow cm delim line := by
  rw [intRow_content, intRow_content, c18x_content cm line w hw]

/-- each line has its own terminator, e.g. all `'\n'` but the last -/
theorem C18_terminator_snapshots (directed : Bool) (cm : Char) (delim : Option Char)
    (lines : List (List Char × List Char))
    (hw : ∀ p ∈ lines, (∀ c ∈ p.2, isWs c = true) ∧ cm ∉ p.2) :
    parseSnapshotsText directed cm delim (lines.map (fun p => p.1 ++ p.2)) =
      parseSnapshotsText directed cm delim (lines.map (·.1)) := by
  unfold parseSnapshotsText
  rw [parseSnapshotsText_go_eq, parseSnapshotsText_go_eq, map_map, map_map]
  exact congrArg _ (map_congr_left fun p hp =>
    congrArg RowS.line (C18_terminator_snapRow cm delim p.1 p.2 (hw p hp).1 (hw p hp).2))

theorem C18_terminator_interactions (directed : Bool) (cm : Char) (delim : Option Char)
    (lines : List (List Char × List Char))
    (hw : ∀ p ∈ lines, (∀ c ∈ p.2, isWs c = true) ∧ cm ∉ p.2) :
    parseInteractionsText directed cm delim (lines.map (fun p => p.1 ++ p.2)) =
      parseInteractionsText directed cm delim (lines.map (·.1)) := by
  unfold parseInteractionsText
  rw [parseInteractionsText_go_eq, parseInteractionsText_go_eq, map_map, map_map]
  exact congrArg _ (map_congr_left fun p hp =>
    congrArg RowI.line (C18_terminator_intRow cm delim p.1 p.2 (hw p hp).1 (hw p hp).2))

/-- a CRLF row, a row without terminator, a comment row with terminator -/
example : snapRow '#' none ("1 2 17\r\n".toList) = snapRow '#' none ("1 2 17".toList) ∧
    snapRow '#' (some ',') ("1,2,17 # x\n".toList) = .row 1 2 17 none ∧ snapRow '#' none ("# x\n".toList) = .skip := by
  simp only [String.reduceToList]; decide

end Dynetx
