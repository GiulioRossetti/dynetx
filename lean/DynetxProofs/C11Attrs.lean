import DynetxModel.NodeLinkAttrs
import DynetxProofs.Lemmas.Upsert
/-
  C11 at the level of node RECORDS (attribute names included): what `node_link_data` writes for a node and what
  `node_link_graph` reads back.  The id always comes back; of the attributes exactly those whose NAME is not the id
  key.  So the property as stated ("the same nodes, node attributes") is FALSE for a graph with an attribute named like
  the id key (known finding D27, replayed on the implementation by the harness ops `nlidattr` and `nlrecs`), and holds otherwise.
-/
namespace Dynetx

theorem dictSet_upsert {β : Type} (d : List (Nat × β)) (k : Nat) (v : β) :
    dictSet d k v = upsert d k (fun _ => (k, v)) v := rfl

theorem dictGet_dictSet_self {β : Type} (d : List (Nat × β)) (k : Nat) (v : β) : dictGet (dictSet d k v) k = some v := by
  rw [dictGet, dictSet_upsert, find?_upsert d k k _ v (fun _ _ => beq_self_eq_true k), if_pos (beq_self_eq_true k)]
  cases d.find? (fun e => e.1 == k) <;> rfl

theorem filter_ne_key {β : Type} {d : List (Nat × β)} {k : Nat} (h : ∀ e ∈ d, e.1 ≠ k) :
    d.filter (fun e => e.1 != k) = d :=
  List.filter_eq_self.mpr fun e he => by simpa using h e he

/-- that the key occurs once is `C11A_record_keys` -/
theorem C11A_record_has_id (idKey : Nat) (n : Node) (attrs : Attrs) :
    dictGet (nodeRecord idKey n attrs) idKey = some (.node n) :=
  dictGet_dictSet_self _ _ _

theorem C11A_record_id (idKey pos : Nat) (n : Node) (attrs : Attrs) :
    (recordNode idKey pos (nodeRecord idKey n attrs)).1 = .node n :=
  congrArg (Option.getD · (RecVal.node pos)) (C11A_record_has_id idKey n attrs)

theorem C11A_record_data (idKey pos : Nat) (n : Node) (attrs : Attrs) :
    (recordNode idKey pos (nodeRecord idKey n attrs)).2 =
      (attrs.filter (fun e => e.1 != idKey)).map (fun e => (e.1, RecVal.attr e.2)) := by
  unfold recordNode nodeRecord
  rw [dictSet_upsert, filter_upsert_ne (fun _ _ => beq_self_eq_true idKey)]
  exact List.filter_map

/-- PARTIAL (hypothesis: no attribute is named like the id key): the record round-trips -/
theorem C11A_record_roundtrip_partial (idKey pos : Nat) (n : Node) (attrs : Attrs)
    (h : ∀ e ∈ attrs, e.1 ≠ idKey) :
    recordNode idKey pos (nodeRecord idKey n attrs) = (.node n, attrs.map (fun e => (e.1, RecVal.attr e.2))) := by
  refine Prod.ext (C11A_record_id idKey pos n attrs) ?_
  rw [C11A_record_data, filter_ne_key h]

/-- an attribute named like the id key never comes back (known finding D27) -/
theorem C11A_idkey_attribute_lost (idKey pos : Nat) (n : Node) (attrs : Attrs) :
    ∀ e ∈ (recordNode idKey pos (nodeRecord idKey n attrs)).2, e.1 ≠ idKey :=
  fun e he => by simpa using (List.mem_filter.mp he).2

/-- the hypothesis of `C11A_record_roundtrip_partial` is exact -/
theorem C11A_record_roundtrip_iff (idKey pos : Nat) (n : Node) (attrs : Attrs) :
    (recordNode idKey pos (nodeRecord idKey n attrs)).2 = attrs.map (fun e => (e.1, RecVal.attr e.2)) ↔
      ∀ e ∈ attrs, e.1 ≠ idKey := by
  constructor
  · intro h e he
    refine C11A_idkey_attribute_lost idKey pos n attrs (e.1, RecVal.attr e.2) ?_
    rw [h]
    exact List.mem_map.mpr ⟨e, he, rfl⟩
  · intro h
    exact congrArg Prod.snd (C11A_record_roundtrip_partial idKey pos n attrs h)

/-- the negation of the property as stated, on a concrete graph: node 7 with the attributes `{0: 5, 1: 6}` and the id
    key `0` comes back with `{1: 6}` only -/
theorem C11A_idkey_witness :
    recordNode 0 0 (nodeRecord 0 7 [(0, 5), (1, 6)]) = (.node 7, [(1, .attr 6)]) ∧
    (recordNode 0 0 (nodeRecord 0 7 [(0, 5), (1, 6)])).2 ≠ [(0, .attr 5), (1, .attr 6)] := by
  decide

/-- a record without the id key is named by its position (`next(c)` is evaluated for every record) and keeps
    everything else -/
theorem C11A_missing_id_position (idKey pos : Nat) (d : Record) (h : ∀ e ∈ d, e.1 ≠ idKey) :
    recordNode idKey pos d = (.node pos, d) := by
  unfold recordNode dictGet
  have h1 : d.find? (fun e => e.1 == idKey) = none := by
    rw [List.find?_eq_none]; intro x hx; simpa using h x hx
  rw [h1, filter_ne_key h]; rfl

/-- C11 (node records, whole list): for distinct node ids `node_link_graph` rebuilds the node table of
    `node_link_data` in order, each node with the attributes not named like the id key -/
theorem C11A_records_roundtrip (idKey : Nat) (nodes : List (Node × Attrs)) (hnd : (nodes.map (·.1)).Nodup) :
    importRecords idKey (nodeRecords idKey nodes) =
      nodes.map (fun p => (RecVal.node p.1,
        (p.2.filter (fun e => e.1 != idKey)).map (fun e => (e.1, RecVal.attr e.2)))) := by
  unfold importRecords nodeRecords
  rw [List.zipIdx_map, List.foldl_map]
  -- the ids are distinct, so every record opens a new entry of the table, whatever its position
  have := foldl_prefix_inv (R := fun a b : (Node × Attrs) × Nat => a.1.1 ≠ b.1.1)
    (fun tab pi => importStep idKey tab (Prod.map (fun p => nodeRecord idKey p.1 p.2) id pi))
    (fun done tab => tab = (done.map Prod.fst).map fun p => (RecVal.node p.1,
      (p.2.filter (fun e => e.1 != idKey)).map (fun e => (e.1, RecVal.attr e.2))))
    (fun done a tab hne htab => by
      have hno : tab.any (fun e => e.1 == RecVal.node a.1.1) = false := by
        rw [htab, List.map_map, List.any_map, List.any_eq_false]
        exact fun t ht => by simpa using hne t ht
      simp only [importStep, Prod.map, id, C11A_record_id, C11A_record_data, addNodeRec, hno, Bool.false_eq_true,
        if_false, List.map_append, List.map_cons, List.map_nil]
      rw [htab])
    nodes.zipIdx [] []
    (List.Pairwise.of_map Prod.fst (fun _ _ h => h)
      (by rw [List.nil_append, List.zipIdx_map_fst]; exact List.pairwise_map.mp hnd)) rfl
  rw [List.nil_append] at this
  rw [this, List.zipIdx_map_fst]

/-- PARTIAL (hypothesis: no attribute of any node is named like the id key): the node table of the rebuilt graph is the
    node table of the source -/
theorem C11A_records_roundtrip_partial (idKey : Nat) (nodes : List (Node × Attrs))
    (hclash : ∀ p ∈ nodes, ∀ e ∈ p.2, e.1 ≠ idKey) (hnd : (nodes.map (·.1)).Nodup) :
    importRecords idKey (nodeRecords idKey nodes) =
      nodes.map (fun p => (RecVal.node p.1, p.2.map (fun e => (e.1, RecVal.attr e.2)))) := by
  rw [C11A_records_roundtrip idKey nodes hnd]
  refine List.map_congr_left (fun p hp => ?_)
  rw [filter_ne_key (hclash p hp)]

/-- two nodes, one with two attributes, a custom id key -/
example : importRecords 9 (nodeRecords 9 [(3, [(0, 5), (1, 6)]), (4, [])]) =
    [(.node 3, [(0, .attr 5), (1, .attr 6)]), (.node 4, [])] := by decide

/-- the record written for a node is a dictionary when the attributes are one -/
theorem C11A_record_keys (idKey : Nat) (n : Node) (attrs : Attrs) (hnd : (attrs.map (·.1)).Nodup) :
    ((nodeRecord idKey n attrs).map (·.1)).Nodup ∧ idKey ∈ (nodeRecord idKey n attrs).map (·.1) := by
  unfold nodeRecord
  rw [dictSet_upsert, upsert_keys (fun _ _ => beq_self_eq_true idKey), List.map_map]
  exact ⟨nodup_insertNew hnd, mem_insertNew.mpr (.inr rfl)⟩

/-- a node named by two records keeps the union of their attributes, the later record winning on a shared name
    (`add_node(n, **attrs)` updates): concrete instance, by evaluation -/
theorem C11A_repeated_id_merges :
    importRecords 0 [[(0, .node 4), (1, .attr 5), (2, .attr 6)], [(2, .attr 7), (0, .node 4), (3, .attr 8)]] =
      [(.node 4, [(1, .attr 5), (2, .attr 7), (3, .attr 8)])] := by decide

end Dynetx
