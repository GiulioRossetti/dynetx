import DynetxProofs.C20
import DynetxProofs.C20Sliding
import DynetxProofs.C06
import DynetxProofs.C12
import DynetxProofs.WFAll
/-
  C20 (renaming): the `delta_conformity` scores are invariant under an injective renaming `f` of the label values
  (`Graph.relabel f`; renaming the node ids is Equivariance*.lean).  The score of a node reads the labels only through
  equality tests, on the node, the nodes it reaches and their neighbours (`c20r_label_congr_on`).  An injective `f` keeps
  those tests wherever `(g.relabel f).label n = f (g.label n)`; an undeclared node reads as the default token 0 before
  and after, so that holds when `n` is declared or `f 0 = 0` (`c20r_label`).  Hence the one disjunction the file runs
  on: `f` fixes 0, or the end points of the stored pairs are declared and no undeclared node is ever looked at.  Under
  it the node score is kept, `time_slice` commutes with the relabelling, and the two meet in `confWindow_transport`
  (`c20r_deltaConformity`).  The examples at the end show that injectivity and the declaration hypothesis are needed.
-/
namespace Dynetx

theorem c20r_label_congr_on (g' g : Graph) (hnb : ∀ n t, g'.neighbors n t = g.neighbors n t)
    (S : Node → Prop)
    (hS : ∀ a b, S a → S b → (g'.label a == g'.label b) = (g.label a == g.label b))
    (sp : List ((Node × Node) × List TPath)) (ptype alpha : Nat) (u : Node) (hu : S u)
    (htd : ∀ v ∈ (tDistances sp ptype u).map (·.1), S v)
    (hnbS : ∀ v ∈ (tDistances sp ptype u).map (·.1), ∀ t, ∀ x ∈ g.neighbors v t, S x) :
    nodeScore g' sp ptype alpha u = nodeScore g sp ptype alpha u := by
  rw [nodeScore_eq_W, nodeScore_eq_W, nodeScoreW_eq, nodeScoreW_eq]
  refine scoreOf_congr _ _ fun d _ => ?_
  unfold labelFrequencyL
  refine congrArg (· / _) (congrArg _ (List.map_congr_left fun v hv => ?_))
  have hv := mem_nodesAtRank hv
  dsimp only
  rw [hnb, hS u v hu (htd v hv), List.filter_congr fun x hx => hS x v (hnbS v hv _ x hx) (htd v hv)]

theorem c20r_neighbors_congr (g' g : Graph) (hd : g'.directed = g.directed) (hr : g'.removal = g.removal)
    (he : g'.edges = g.edges) (hs : g'.snaps = g.snaps) (n : Node) (t : Option Int) :
    g'.neighbors n t = g.neighbors n t := by
  cases g; cases g'
  simp only at hd hr he hs
  subst hd hr he hs
  rfl

/-- **C20 (labels enter through equality tests only).** -/
theorem C20_label_congr (g' g : Graph) (hd : g'.directed = g.directed) (hr : g'.removal = g.removal)
    (he : g'.edges = g.edges) (hs : g'.snaps = g.snaps)
    (hl : ∀ a b, (g'.label a == g'.label b) = (g.label a == g.label b))
    (sp : List ((Node × Node) × List TPath)) (ptype alpha : Nat) (u : Node) :
    nodeScore g' sp ptype alpha u = nodeScore g sp ptype alpha u :=
  c20r_label_congr_on g' g (c20r_neighbors_congr g' g hd hr he hs) (fun _ => True)
    (fun a b _ _ => hl a b) sp ptype alpha u trivial (fun _ _ => trivial) (fun _ _ _ _ _ => trivial)

def Graph.relabel (g : Graph) (f : Nat → Nat) : Graph :=
  { g with nodes := g.nodes.map (fun p => (p.1, f p.2)) }

theorem c20r_nodeList (g : Graph) (f : Nat → Nat) : (g.relabel f).nodeList = g.nodeList := by
  simp only [Graph.nodeList, Graph.relabel, List.map_map, Function.comp_def]

theorem c20r_hasNodeFlat (g : Graph) (f : Nat → Nat) (n : Node) :
    (g.relabel f).hasNodeFlat n = g.hasNodeFlat n := by
  simp only [Graph.hasNodeFlat, Graph.relabel, List.any_map, Function.comp_def]

theorem c20r_degree (g : Graph) (f : Nat → Nat) (n : Node) (t : Option Int) :
    (g.relabel f).degree n t = g.degree n t := by
  unfold Graph.degree; rfl

theorem c20r_ids (g : Graph) (f : Nat → Nat) : (g.relabel f).ids = g.ids := rfl

theorem c20r_nodesAt (g : Graph) (f : Nat → Nat) (t : Option Int) : (g.relabel f).nodesAt t = g.nodesAt t := by
  cases t with
  | none => exact c20r_nodeList g f
  | some x => simp only [Graph.nodesAt, c20r_nodeList, c20r_degree]

/-- the paths read the node table through `nodes(t)` and `has_node` only -/
theorem c20r_allTimeRespectingPaths (g : Graph) (f : Nat → Nat) (start stop minT : Option Int) :
    (g.relabel f).allTimeRespectingPaths start stop minT = g.allTimeRespectingPaths start stop minT := by
  have ht : (g.relabel f).timeRespectingPaths = g.timeRespectingPaths := by
    funext u v s e
    have hn : (g.relabel f).hasNode u s = g.hasNode u s := by
      cases s <;> simp only [Graph.hasNode, c20r_hasNodeFlat, c20r_degree]
    unfold Graph.timeRespectingPaths
    rw [hn]
    rfl
  unfold Graph.allTimeRespectingPaths
  rw [c20r_nodesAt, ht]

theorem c20r_label (g : Graph) (f : Nat → Nat) (n : Node) (h : f 0 = 0 ∨ g.hasNodeFlat n = true) :
    (g.relabel f).label n = f (g.label n) := by
  simp only [Graph.label, Graph.relabel, List.find?_map, Function.comp_def]
  cases hfind : g.nodes.find? (fun p => p.1 == n) with
  | some q => rfl
  | none =>
    rcases h with h | h
    · exact h.symm
    · obtain ⟨q, hq, hq1⟩ := List.any_eq_true.mp h
      exact absurd hq1 (List.find?_eq_none.mp hfind q hq)

theorem c20r_selectPaths_nil (ptype : Nat) : selectPaths (annotatePaths []) ptype = [] := by
  fun_cases selectPaths _ ptype <;> rfl

/-- every key of `t_distances[u]` is the end point of a non-empty group of paths leaving `u` -/
theorem c20r_tDistances_keys (P : Node → Prop) (sp : List ((Node × Node) × List TPath)) (ptype : Nat) (u : Node)
    (h : ∀ kp ∈ sp, kp.1.1 = u → kp.2 ≠ [] → P kp.1.2) :
    ∀ v ∈ (tDistances sp ptype u).map (·.1), P v := by
  rw [tDistances_eq_foldl]
  suffices ∀ acc : List (Node × Nat), (∀ e ∈ acc, P e.1) → ∀ e ∈ sp.foldl (tdStep ptype u) acc, P e.1 from
    List.forall_mem_map.2 (this [] nofun)
  induction sp with
  | nil => exact fun _ hacc => hacc
  | cons kp sp ih =>
    intro acc hacc
    refine ih (fun kp' hk => h kp' (List.mem_cons_of_mem _ hk)) _ ?_
    fun_cases tdStep ptype u acc kp
    · next hc m hm =>
      -- a group that sets a distance has a path
      have hne : kp.2 ≠ [] := fun h => by rw [h, c20r_selectPaths_nil] at hm; cases hm
      exact forall_upsert (Q := fun e => P e.1) hacc hacc
        (h kp List.mem_cons_self (beq_iff_eq.1 (Bool.and_eq_true_iff.1 hc).1) hne)
    · exact hacc
    · exact hacc

theorem c20r_neighbors_declared (g : Graph)
    (he : ∀ e ∈ g.edges, g.hasNodeFlat e.u = true ∧ g.hasNodeFlat e.v = true) (n : Node) (t : Option Int) :
    ∀ x ∈ g.neighbors n t, g.hasNodeFlat x = true := fun x hx =>
  (q1_node_of_flat he ((q1_row_present g n x t).mp (List.mem_filter.mp hx))).2

/-- **C20 (renaming, one node).** -/
theorem C20_relabel_nodeScore (g : Graph) (f : Nat → Nat) (hf : Function.Injective f)
    (sp : List ((Node × Node) × List TPath)) (ptype alpha : Nat) (u : Node)
    (hu : g.hasNodeFlat u = true)
    (hsp : ∀ kp ∈ sp, kp.1.1 = u → kp.2 ≠ [] → g.hasNodeFlat kp.1.2 = true)
    (he : ∀ e ∈ g.edges, g.hasNodeFlat e.u = true ∧ g.hasNodeFlat e.v = true) :
    nodeScore (g.relabel f) sp ptype alpha u = nodeScore g sp ptype alpha u :=
  c20r_label_congr_on (g.relabel f) g (fun _ _ => rfl) (fun n => g.hasNodeFlat n = true)
    (fun a b ha hb => by rw [c20r_label g f a (Or.inr ha), c20r_label g f b (Or.inr hb), beq_of_inj hf])
    sp ptype alpha u hu (c20r_tDistances_keys (fun n => g.hasNodeFlat n = true) sp ptype u hsp)
    (fun v _ t x hx => c20r_neighbors_declared g he v t x hx)

theorem C20_relabel_nodeScore_fix0 (g : Graph) (f : Nat → Nat) (hf : Function.Injective f) (h0 : f 0 = 0)
    (sp : List ((Node × Node) × List TPath)) (ptype alpha : Nat) (u : Node) :
    nodeScore (g.relabel f) sp ptype alpha u = nodeScore g sp ptype alpha u :=
  C20_label_congr (g.relabel f) g rfl rfl rfl rfl
    (fun a b => by rw [c20r_label g f a (Or.inl h0), c20r_label g f b (Or.inl h0), beq_of_inj hf]) sp ptype alpha u

theorem c20r_ensureNode_mem {ns : List (Node × Nat)} {n : Node} {p : Node × Nat} (h : p ∈ ensureNode ns n) :
    p ∈ ns ∨ p = (n, 0) := by
  revert h
  fun_cases ensureNode ns n
  · exact Or.inl
  · exact fun h => (List.mem_append.mp h).imp_right List.mem_singleton.mp

theorem c20r_addMany_nodes {calls : List Call4} {g : Graph} {r : Graph × Option Err} (hr : g.addMany calls = r) :
    ∀ p ∈ r.1.nodes, p ∈ g.nodes ∨ (p.2 = 0 ∧ ∃ c ∈ calls, p.1 = c.1 ∨ p.1 = c.2.1) :=
  hr ▸ addMany_induction (P := fun g' => ∀ p ∈ g'.nodes, p ∈ g.nodes ∨ (p.2 = 0 ∧ ∃ c ∈ calls, p.1 = c.1 ∨ p.1 = c.2.1))
    calls (fun _ => Or.inl) fun g' ih c hc p hp => by
    rcases (addInteraction_frame g' c.1 c.2.1 (some c.2.2.1) c.2.2.2).nodes with hn | hn
    · exact ih p (hn ▸ hp)
    · rcases c20r_ensureNode_mem (hn ▸ hp) with hp | rfl
      · rcases c20r_ensureNode_mem hp with hp | rfl
        · exact ih p hp
        · exact Or.inr ⟨rfl, c, hc, Or.inl rfl⟩
      · exact Or.inr ⟨rfl, c, hc, Or.inr rfl⟩

theorem c20r_data_mem (g : Graph) (p : Node × Node × List Span) (hp : p ∈ c06_data g) :
    g.hasInteraction p.1 p.2.1 none = true := by
  revert hp
  fun_cases c06_data g
  · intro hp
    obtain ⟨q, hq, rfl⟩ := List.mem_map.mp hp
    exact ((q2_mem_out g none none q.1 q.2).mp hq).2
  · intro hp
    obtain ⟨q, hq, rfl⟩ := List.mem_map.mp hp
    exact (q2_go_mem hq).2.1

theorem c20r_interactionsGo (g : Graph) (f : Nat → Nat) (t : Option Int) : ∀ (l seen : List Node),
    (g.relabel f).interactionsGo t l seen = g.interactionsGo t l seen := by
  intro l
  induction l with
  | nil => intro seen; rfl
  | cons n rest ih =>
    intro seen
    unfold Graph.interactionsGo
    rw [ih]
    rfl

theorem c20r_data (g : Graph) (f : Nat → Nat) :
    (if (g.relabel f).directed then (g.relabel f).outInteractionsData else (g.relabel f).interactionsData)
      = (if g.directed then g.outInteractionsData else g.interactionsData) := by
  have h1 : (g.relabel f).outInteractionsData = g.outInteractionsData := by
    unfold Graph.outInteractionsData Graph.outInteractions Graph.nbunch
    simp only [c20r_nodeList]
    rfl
  have h2 : (g.relabel f).interactionsData = g.interactionsData := by
    unfold Graph.interactionsData Graph.interactions Graph.nbunch
    simp only [c20r_nodeList, c20r_interactionsGo]
    rfl
  rw [h1, h2]
  rfl

theorem c20r_copyAttrs (g : Graph) (dst : List (Node × Nat)) (h : ∀ p ∈ dst, p.2 = 0) :
    copyAttrs g.nodes dst = dst.map fun p => (p.1, g.label p.1) :=
  List.map_congr_left fun p hp => by rw [h p hp]; rfl

/-- the slice carries the labels of the source (`copyAttrs`, onto the token 0 of a fresh node) on the nodes its calls
    declare, and those are end points of stored pairs of `g` -/
theorem c20r_timeSlice (g : Graph) (f : Nat → Nat) (a : Int) (bo : Option Int)
    (h : f 0 = 0 ∨ ∀ e ∈ g.edges, g.hasNodeFlat e.u = true ∧ g.hasNodeFlat e.v = true) :
    (g.relabel f).timeSlice a bo = (g.timeSlice a bo).map (fun H => H.relabel f) := by
  unfold Graph.timeSlice
  simp only [c20r_data]
  rw [show (g.relabel f).directed = g.directed from rfl, apply_ite (Except.map _)]
  refine ite_congr rfl (fun _ => rfl) fun _ => ?_
  split
  · rfl
  · rename_i h0 hres
    have hn : ∀ p ∈ h0.nodes, _ := fun p hp => (c20r_addMany_nodes hres p hp).resolve_left List.not_mem_nil
    refine congrArg (fun ns => Except.ok ({ h0 with nodes := ns } : Graph)) ?_
    rw [c20r_copyAttrs (g.relabel f) _ fun p hp => (hn p hp).1, c20r_copyAttrs g _ fun p hp => (hn p hp).1,
      List.map_map]
    refine List.map_congr_left fun p hp => congrArg (Prod.mk p.1) (c20r_label g f p.1 (h.imp_right fun he => ?_))
    obtain ⟨_, c, hc, hpc⟩ := hn p hp
    obtain ⟨q, hq, e1, e2⟩ := c06_sliceCalls_pair hc
    have hd := q1_node_of_flat he (c20r_data_mem g q hq)
    rcases hpc with h1 | h1
    · exact h1 ▸ e1 ▸ hd.1
    · exact h1 ▸ e2 ▸ hd.2

theorem c20r_sp_declared (g : Graph) (he : ∀ e ∈ g.edges, g.hasNodeFlat e.u = true ∧ g.hasNodeFlat e.v = true)
    (hids : g.ids.Pairwise (· < ·)) (start stop minT : Option Int)
    (sp : List ((Node × Node) × List TPath)) (h : g.allTimeRespectingPaths start stop minT = .ok sp) :
    ∀ kp ∈ sp, kp.2 ≠ [] → g.hasNodeFlat kp.1.2 = true := by
  intro kp hkp hne
  obtain ⟨p, hp⟩ := List.exists_mem_of_ne_nil kp.2 hne
  obtain ⟨hv, hk⟩ := C12_all_sound g hids start stop minT sp h kp hkp p hp
  cases p with
  | nil => exact absurd rfl hv.nonempty
  | cons a rest =>
    rw [hk, pathKey_cons]
    exact c20r_neighbors_declared g he _ _ _ (hv.hops _ (List.getLast_mem _)).2

theorem c20r_deltaConformity (dg : Graph) (f : Nat → Nat) (hf : Function.Injective f)
    (h : f 0 = 0 ∨ ∀ e ∈ dg.edges, dg.hasNodeFlat e.u = true ∧ dg.hasNodeFlat e.v = true)
    (start delta : Int) (alphas : List Nat) (ptype : Nat) :
    (dg.relabel f).deltaConformity start delta alphas ptype = dg.deltaConformity start delta alphas ptype := by
  rw [deltaConformity_eq, deltaConformity_eq]
  refine confWindow_transport (fun H => H.relabel f) id id (fun _ => rfl) rfl dg start delta _ _ (c20r_timeSlice dg f _ _ h)
    (fun _ => rfl)
    (fun g s e => ?_) (fun H hH s e sp hsp => ?_)
  · rw [c20r_allTimeRespectingPaths]; cases g.allTimeRespectingPaths s e none <;> rfl
  · simp only [c20r_nodesAt, id]
    refine congrArg (fun l => Except.ok (some l)) (List.map_congr_left fun a _ =>
      congrArg (Prod.mk a) (List.map_congr_left fun u hu => congrArg (Prod.mk u) ?_))
    rcases h with h0 | _
    · exact C20_relabel_nodeScore_fix0 H f hf h0 sp ptype a u
    · -- the slice satisfies the node invariant whatever the source: what is looked at in it is declared
      have hHe := (c06_slice_inv hH).nodeInv.endpoints
      have hids := ids_strict_of_snapsOk (C06_wellformed dg start (some (start + delta)) H hH).snap.ok
      exact C20_relabel_nodeScore H f hf sp ptype a u ((q1_hasNodeFlat_iff H u).mpr (List.mem_filter.mp hu).1)
        (fun kp hkp _ => c20r_sp_declared H hHe hids s e none sp hsp kp hkp) hHe

/-- **C20 (renaming).** `he` is `NodeInv.endpoints`, which every history of calls establishes. -/
theorem C20_relabel_deltaConformity (dg : Graph) (f : Nat → Nat) (hf : Function.Injective f)
    (he : ∀ e ∈ dg.edges, dg.hasNodeFlat e.u = true ∧ dg.hasNodeFlat e.v = true)
    (start delta : Int) (alphas : List Nat) (ptype : Nat) :
    (dg.relabel f).deltaConformity start delta alphas ptype = dg.deltaConformity start delta alphas ptype :=
  c20r_deltaConformity dg f hf (Or.inr he) start delta alphas ptype

theorem C20_relabel_deltaConformity_history (d r : Bool) (ops : List Op) (f : Nat → Nat)
    (hf : Function.Injective f) (start delta : Int) (alphas : List Nat) (ptype : Nat) :
    (((Graph.empty d r).run ops).1.relabel f).deltaConformity start delta alphas ptype
      = ((Graph.empty d r).run ops).1.deltaConformity start delta alphas ptype :=
  C20_relabel_deltaConformity _ f hf (q1_run_nodeInv d r ops).endpoints start delta alphas ptype

theorem c20r_setAttrs_nodeInv (attrs : List (Node × Nat)) : ∀ (g : Graph), NodeInv g →
    NodeInv (attrs.foldl (fun g p => g.setAttr p.1 p.2) g) := by
  induction attrs with
  | nil => intro g h; exact h
  | cons p rest ih => intro g h; exact ih _ (setAttr_nodeInv h p.1 p.2)

theorem C20_relabel_deltaConformity_labelled (d r : Bool) (ops : List Op) (attrs : List (Node × Nat))
    (f : Nat → Nat) (hf : Function.Injective f) (start delta : Int) (alphas : List Nat) (ptype : Nat) :
    ((attrs.foldl (fun g p => g.setAttr p.1 p.2) ((Graph.empty d r).run ops).1).relabel f).deltaConformity
        start delta alphas ptype
      = (attrs.foldl (fun g p => g.setAttr p.1 p.2) ((Graph.empty d r).run ops).1).deltaConformity
        start delta alphas ptype :=
  C20_relabel_deltaConformity _ f hf (c20r_setAttrs_nodeInv attrs _ (q1_run_nodeInv d r ops)).endpoints
    start delta alphas ptype

theorem C20_relabel_deltaConformity_fix0 (dg : Graph) (f : Nat → Nat) (hf : Function.Injective f) (h0 : f 0 = 0)
    (start delta : Int) (alphas : List Nat) (ptype : Nat) :
    (dg.relabel f).deltaConformity start delta alphas ptype = dg.deltaConformity start delta alphas ptype :=
  c20r_deltaConformity dg f hf (Or.inl h0) start delta alphas ptype

theorem c20r_sliding (dg : Graph) (f : Nat → Nat) (hf : Function.Injective f)
    (h : f 0 = 0 ∨ ∀ e ∈ dg.edges, dg.hasNodeFlat e.u = true ∧ dg.hasNodeFlat e.v = true)
    (delta : Int) (alphas : List Nat) (ptype : Nat) :
    (dg.relabel f).slidingDeltaConformity delta alphas ptype = dg.slidingDeltaConformity delta alphas ptype := by
  simp only [slidingDeltaConformity_eq_slidingOf, c20r_ids, c20r_deltaConformity dg f hf h]

/-- **C20 (renaming, sliding windows).** -/
theorem C20_relabel_sliding (dg : Graph) (f : Nat → Nat) (hf : Function.Injective f)
    (he : ∀ e ∈ dg.edges, dg.hasNodeFlat e.u = true ∧ dg.hasNodeFlat e.v = true)
    (delta : Int) (alphas : List Nat) (ptype : Nat) :
    (dg.relabel f).slidingDeltaConformity delta alphas ptype = dg.slidingDeltaConformity delta alphas ptype :=
  c20r_sliding dg f hf (Or.inr he) delta alphas ptype

theorem C20_relabel_sliding_fix0 (dg : Graph) (f : Nat → Nat) (hf : Function.Injective f) (h0 : f 0 = 0)
    (delta : Int) (alphas : List Nat) (ptype : Nat) :
    (dg.relabel f).slidingDeltaConformity delta alphas ptype = dg.slidingDeltaConformity delta alphas ptype :=
  c20r_sliding dg f hf (Or.inl h0) delta alphas ptype

theorem C20_relabel_sliding_history (d r : Bool) (ops : List Op) (f : Nat → Nat)
    (hf : Function.Injective f) (delta : Int) (alphas : List Nat) (ptype : Nat) :
    (((Graph.empty d r).run ops).1.relabel f).slidingDeltaConformity delta alphas ptype
      = ((Graph.empty d r).run ops).1.slidingDeltaConformity delta alphas ptype :=
  C20_relabel_sliding _ f hf (q1_run_nodeInv d r ops).endpoints delta alphas ptype

/- the example: 1–2 on `[0,2]`, 2–3 on `[1,2]`, labels 1 ↦ 1, 2 ↦ 2, 3 ↦ 2 -/

def c20r_ex : Graph :=
  (((((Graph.empty false true).addInteraction 1 2 (some 0) (some 3)).1.addInteraction 2 3 (some 1) (some 3)).1.setAttr
    1 1).setAttr 2 2).setAttr 3 2

def c20r_exH : Graph :=
  { directed := false, removal := true, gattr := 0, nodes := [(1, 1), (2, 2), (3, 2)],
    edges := [{ u := 1, v := 2, tl := [(0, 2)] }, { u := 2, v := 3, tl := [(1, 2)] }],
    events := [{ t := 0, u := 1, v := 2, plus := true }, { t := 3, u := 1, v := 2, plus := false },
               { t := 1, u := 2, v := 3, plus := true }, { t := 3, u := 2, v := 3, plus := false }],
    snaps := [(0, 2), (1, 4), (2, 4)] }

def c20r_exSp : List ((Node × Node) × List TPath) :=
  [((1, 2), [[(1, 2, 0)], [(1, 2, 1)], [(1, 2, 2)]]),
   ((1, 3), [[(1, 2, 0), (2, 3, 1)], [(1, 2, 0), (2, 3, 2)], [(1, 2, 1), (2, 3, 2)]]),
   ((2, 1), [[(2, 1, 0)], [(2, 1, 1)], [(2, 1, 2)]]), ((2, 3), [[(2, 3, 1)], [(2, 3, 2)]])]

theorem c20r_ex_slice : c20r_ex.timeSlice 0 (some (0 + 2)) = .ok c20r_exH := by rfl

theorem c20r_exH_ids : c20r_exH.ids = [0, 1, 2] := List.mergeSort_of_pairwise (by decide)

local instance c20r_decGroup : DecidableEq ((Node × Node) × List TPath) := inferInstance

theorem c20r_exH_paths :
    c20r_exH.allTimeRespectingPaths (some (max 0 0)) (some (min 2 (0 + 2))) none = .ok c20r_exSp := by
  unfold Graph.allTimeRespectingPaths Graph.timeRespectingPaths Graph.temporalDag
  rw [c20r_exH_ids]
  -- a closed term: the kernel runs it (here and below, on closed rational terms) where `decide` gets stuck on the
  -- arithmetic or elaborates the term twice
  decide +kernel

theorem c20r_sortedSetNat (l : List Nat) (h : l.Pairwise (fun a b => decide (a ≤ b) = true)) :
    sortedSetNat l = l.eraseDups := by
  rw [sortedSetNat, List.mergeSort_of_pairwise h]

/-- `nodeScore` in its closed form (`scoreOf_eq`) with the sorted set of the distances handed in: that `mergeSort`
    is the one thing in it the kernel does not evaluate -/
theorem c20r_nodeScore_with (g : Graph) (sp : List ((Node × Node) × List TPath)) (ptype alpha : Nat) (u : Node)
    (td : List (Node × Nat)) (vals : List Nat) (htd : tDistances sp ptype u = td)
    (hvals : sortedSetNat (td.map (·.2)) = vals) :
    nodeScore g sp ptype alpha u =
      ((List.range' 1 vals.length).map fun d => labelFrequency g u
        (((td.map fun p => (p.1, vals.idxOf p.2 + 1)).filter fun e => e.2 == d).map (·.1)) td
          / ((d : Nat) : Rat) ^ alpha).sum /
      ((List.range' 1 vals.length).map fun d => 1 / ((d : Nat) : Rat) ^ alpha).sum := by
  subst htd hvals
  rw [nodeScore_eq_W, nodeScoreW_eq, scoreOf_eq, ranksOf_eq_range']
  rfl

theorem c20r_ex_score1 : nodeScore c20r_exH c20r_exSp 0 1 1 = -2 / 3 := by
  rw [c20r_nodeScore_with _ _ _ _ _ [(2, 1), (3, 2)] [1, 2] (by decide) (c20r_sortedSetNat _ (by decide))]
  decide +kernel

theorem c20r_ex_score2 : nodeScore c20r_exH c20r_exSp 0 1 2 = 0 := by
  rw [c20r_nodeScore_with _ _ _ _ _ [(1, 1), (3, 1)] [1] (by decide) (c20r_sortedSetNat _ (by decide))]
  decide +kernel

theorem c20r_ex_value : c20r_ex.deltaConformity 0 2 [1] 0 = .ok (some [(1, [(1, -2 / 3), (2, 0)])]) := by
  have hmin : minList [0, 1, 2] = some 0 := by decide
  have hmax : maxList [0, 1, 2] = some 2 := by decide
  have hnodes : c20r_exH.nodesAt (some 0) = [1, 2] := by decide
  unfold Graph.deltaConformity
  rw [c20r_ex_slice]
  simp only [c20r_exH_ids, hmin, hmax, c20r_exH_paths, hnodes, List.map, c20r_ex_score1, c20r_ex_score2]

theorem c20r_add5_injective : Function.Injective (fun x : Nat => x + 5) := fun _ _ h => Nat.add_right_cancel h

theorem c20r_ex_endpoints : ∀ e ∈ c20r_ex.edges, c20r_ex.hasNodeFlat e.u = true ∧ c20r_ex.hasNodeFlat e.v = true := by
  decide

example : (c20r_ex.relabel (fun x => x + 5)).nodes = [(1, 6), (2, 7), (3, 7)] := by decide

/-- the hypotheses of `C20_relabel_deltaConformity` hold on an example whose value is not the trivial one -/
example : (c20r_ex.relabel (fun x => x + 5)).deltaConformity 0 2 [1] 0
    = .ok (some [(1, [(1, -2 / 3), (2, 0)])]) := by
  rw [C20_relabel_deltaConformity c20r_ex _ c20r_add5_injective c20r_ex_endpoints, c20r_ex_value]

example : (-2 / 3 : Rat) ≠ 0 := by norm_num

/-- injectivity is needed: identifying the two labels of the example changes the score of node 1 from -2/3 to 1 -/
example : nodeScore (c20r_exH.relabel (fun _ => 0)) c20r_exSp 0 1 1 = 1 ∧ nodeScore c20r_exH c20r_exSp 0 1 1 = -2 / 3 := by
  refine ⟨?_, c20r_ex_score1⟩
  rw [C20_all_equal' _ c20r_exSp 0 1 1 (fun x y => by rw [c20r_label _ _ x (Or.inl rfl), c20r_label _ _ y (Or.inl rfl)])]
  have htd : tDistances c20r_exSp 0 1 = [(2, 1), (3, 2)] := by decide
  rw [htd]; rfl

/-- node 2 is an end point of the stored pair and not a declared node -/
def c20r_bad : Graph :=
  { directed := false, removal := true, gattr := 0, nodes := [(1, 0)],
    edges := [{ u := 1, v := 2, tl := [(0, 0)] }], events := [], snaps := [(0, 2)] }

/-- the declaration hypothesis is needed (when `f 0 ≠ 0`): the label of node 2 is the default 0 before and after the
    renaming; the token 0 of node 1 equals it before and is 5 after -/
theorem c20r_bad_witness :
    nodeScore c20r_bad [((1, 2), [[(1, 2, 0)]])] 0 1 1 = 1 ∧
    nodeScore (c20r_bad.relabel (fun x => x + 5)) [((1, 2), [[(1, 2, 0)]])] 0 1 1 = -1 := by
  constructor <;>
  · rw [c20r_nodeScore_with _ _ _ _ _ [(2, 1)] [1] (by decide) (c20r_sortedSetNat _ (by decide))]
    decide +kernel

/-- so `C20_relabel_nodeScore` without the declaration hypotheses is false -/
theorem c20r_undeclared_counterexample :
    ¬ ∀ (g : Graph) (f : Nat → Nat), Function.Injective f → ∀ sp ptype alpha u,
      nodeScore (g.relabel f) sp ptype alpha u = nodeScore g sp ptype alpha u := by
  intro h
  have := h c20r_bad _ c20r_add5_injective [((1, 2), [[(1, 2, 0)]])] 0 1 1
  rw [c20r_bad_witness.1, c20r_bad_witness.2] at this
  norm_num at this

end Dynetx
