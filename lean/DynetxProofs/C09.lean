import DynetxProofs.Lemmas.Rebuild
/- C09: snapshot edge lists at row level (`generate_snapshots` / `parse_snapshots`). -/
namespace Dynetx

/-- the rows of `generate_snapshots` as a function of the list `(u, v, timeline)` it iterates over (`c06_data`); the
    lemmas below need of that list only what `c06_DataOk` says -/
def c09_rowsOf (d : List (Node × Node × List Span)) : List (Node × Node × Int) :=
  d.flatMap (fun p => (instants p.2.2).map (fun s => (p.1, p.2.1, s)))

theorem c09_genSnapshots_eq (g : Graph) : g.genSnapshots = c09_rowsOf (c06_data g) := by
  unfold Graph.genSnapshots c09_rowsOf c06_data
  simp only [instants, List.map_flatMap]

section rows
variable {g : Graph} {d : List (Node × Node × List Span)} (hd : c06_DataOk g d)
include hd

/-- so the calls that read the rows back are never out of order, and no row occurs twice -/
theorem c09_rows_key_lt :
    (c09_rowsOf d).Pairwise
      (fun r s => sameKey g.directed r.1 r.2.1 s.1 s.2.1 = true → r.2.2 < s.2.2) := by
  unfold c09_rowsOf
  rw [List.pairwise_flatMap]
  constructor
  · intro p hp
    rw [List.pairwise_map]
    refine (instants_sorted (hd.canon p hp)).imp ?_
    intro a b hab _
    exact hab
  · refine hd.keys.imp ?_
    intro p q hpq x hx y hy hk
    obtain ⟨s, _, rfl⟩ := List.mem_map.mp hx
    obtain ⟨s', _, rfl⟩ := List.mem_map.mp hy
    exact absurd hk hpq

/-- the two classes differ only in what `sameKey` says -/
theorem c09_rows_iff (a b : Node) (x : Int) :
    (∃ r ∈ c09_rowsOf d, sameKey g.directed r.1 r.2.1 a b = true ∧ r.2.2 = x) ↔
      g.hasInteraction a b (some x) = true := by
  simp only [c09_rowsOf, List.mem_flatMap, List.mem_map, mem_instants]
  constructor
  · rintro ⟨_, ⟨p, hp, y, hy, rfl⟩, hk, rfl⟩
    exact (hd.pres p hp a b hk y).mpr hy
  · intro hh
    obtain ⟨p, hp, hk⟩ := hd.complete a b x hh
    exact ⟨_, ⟨p, hp, x, (hd.pres p hp a b hk x).mp hh, rfl⟩, hk, rfl⟩

/-- `g1` may hold nodes already: `node_link_graph` reads the links into the graph it has put the nodes in -/
theorem c09_roundtrip_gen (g1 : Graph) (he : g1.edges = []) (hr1 : g1.removal = true)
    (hd1 : g1.directed = g.directed) :
    ∃ H, g1.addMany ((c09_rowsOf d).map (fun r => (r.1, r.2.1, r.2.2, none))) = (H, none) ∧ WF H ∧
      H.directed = g.directed ∧ ∀ u v x, H.hasInteraction u v (some x) = g.hasInteraction u v (some x) := by
  have hsorted : CallsSorted g1.directed ((c09_rowsOf d).map (fun r => (r.1, r.2.1, r.2.2, none))) := by
    unfold CallsSorted
    rw [List.pairwise_map, hd1]
    exact (c09_rows_key_lt hd).imp (fun hlt hk => Int.le_of_lt (hlt hk))
  obtain ⟨H, hres, inv⟩ := addMany_sorted g1 he hr1 _ hsorted
  refine ⟨H, hres, inv.wf, inv.directed.trans hd1, fun u v x => ?_⟩
  rw [Bool.eq_iff_iff, inv.presence, hd1, ← c09_rows_iff hd]
  -- a call `(u, v, t, none)` covers exactly the instant `t`
  unfold inCalls
  constructor
  · rintro ⟨c, hc, hk, t1, hsp, hx1, hx2⟩
    obtain ⟨r, hrm, rfl⟩ := List.mem_map.mp hc
    cases hsp
    exact ⟨r, hrm, hk, Int.le_antisymm hx1 hx2⟩
  · rintro ⟨r, hrm, hk, rfl⟩
    exact ⟨_, List.mem_map.mpr ⟨r, hrm, rfl⟩, hk, r.2.2, rfl, Int.le_refl _, Int.le_refl _⟩

end rows

section graph
variable {g : Graph} (h : WF g) (hr : g.removal = true) (hn : NodeInv g)
include h hr hn

/-- exactly one row per interaction and per instant at which it is present, orientation preserved -/
theorem C09_rows_directed (hd : g.directed = true) :
    (∀ u v x, (u, v, x) ∈ g.genSnapshots ↔ g.hasInteraction u v (some x) = true) ∧
    g.genSnapshots.Nodup := by
  have ok := c06_dataOk h hr hn
  rw [c09_genSnapshots_eq]
  constructor
  · intro u v x
    rw [← c09_rows_iff ok, hd]
    constructor
    · exact fun hm => ⟨_, hm, sameKey_refl _ _ _, rfl⟩
    · rintro ⟨⟨a, b, y⟩, hm, hk, rfl⟩
      obtain ⟨rfl, rfl⟩ := (sameKey_directed_iff _ _ _ _).mp hk
      exact hm
  · refine (c09_rows_key_lt ok).imp ?_
    intro r s hrs heq
    subst heq
    exact Int.lt_irrefl _ (hrs (sameKey_refl _ _ _))

/-- one row per unordered pair and instant, under one of the two orientations -/
theorem C09_rows_undirected (hd : g.directed = false) :
    (∀ u v x, ((u, v, x) ∈ g.genSnapshots ∨ (v, u, x) ∈ g.genSnapshots) ↔
        g.hasInteraction u v (some x) = true) ∧
    g.genSnapshots.Pairwise
      (fun r s => ¬ (sameKey false r.1 r.2.1 s.1 s.2.1 = true ∧ r.2.2 = s.2.2)) := by
  have ok := c06_dataOk h hr hn
  rw [c09_genSnapshots_eq]
  constructor
  · intro u v x
    rw [← c09_rows_iff ok, hd]
    constructor
    · rintro (hm | hm)
      · exact ⟨_, hm, sameKey_refl _ _ _, rfl⟩
      · exact ⟨_, hm, (sameKey_iff ..).mpr (.inr ⟨rfl, rfl, rfl⟩), rfl⟩
    · rintro ⟨⟨a, b, y⟩, hm, hk, rfl⟩
      rcases (sameKey_iff _ _ _ _ _).mp hk with ⟨rfl, rfl⟩ | ⟨_, rfl, rfl⟩
      · exact Or.inl hm
      · exact Or.inr hm
  · have hs := c09_rows_key_lt ok
    rw [hd] at hs
    refine hs.imp ?_
    intro r s hrs hc
    exact Int.ne_of_lt (hrs hc.1) hc.2

/-- `parse_snapshots` of the rows `generate_snapshots` wrote gives the same presence relation -/
theorem C09_roundtrip :
    ∃ H, parseSnapshots g.directed (g.genSnapshots.map (fun r => (r.1, r.2.1, r.2.2, none))) = (H, none) ∧
      WF H ∧ H.directed = g.directed ∧
      ∀ u v x, H.hasInteraction u v (some x) = g.hasInteraction u v (some x) := by
  rw [c09_genSnapshots_eq]
  exact c09_roundtrip_gen (c06_dataOk h hr hn) (Graph.empty g.directed true) rfl rfl rfl

end graph

/-- a row `u v t e` is one `add_interaction(u, v, t, e)`; for `t < e` it is read as the span `t..e-1` (for `e ≤ t` the
    span is empty, and only the first conjunct speaks of the row) -/
theorem C09_four_columns (d : Bool) (u v : Node) (t e : Int) :
    parseSnapshots d [(u, v, t, some e)] = (Graph.empty d true).addInteraction u v (some t) (some e) ∧
    (t < e →
      (parseSnapshots d [(u, v, t, some e)]).2 = none ∧ WF (parseSnapshots d [(u, v, t, some e)]).1 ∧
      ∀ a b x, (parseSnapshots d [(u, v, t, some e)]).1.hasInteraction a b (some x) = true ↔
        (sameKey d u v a b = true ∧ t ≤ x ∧ x < e)) := by
  have h1 : parseSnapshots d [(u, v, t, some e)]
      = (Graph.empty d true).addInteraction u v (some t) (some e) := by
    unfold parseSnapshots Graph.addMany
    rcases (Graph.empty d true).addInteraction u v (some t) (some e) with ⟨g', _ | err⟩ <;> rfl
  refine ⟨h1, fun hte => ?_⟩
  have hsp : spanEnd t (some e) = some (e - 1) := if_neg (Int.not_le.mpr hte)
  have sp := addInteraction_stepSpec (Graph.empty d true) (WF.empty _ _) rfl u v t (some e) (e - 1) hsp
  -- the graph is empty, so no stored timeline of the pair can reject the call
  have hacc := sp.accepted (fun _ _ _ _ hf _ => nomatch hf)
  rw [h1]
  refine ⟨hacc, sp.wf, fun a b x => ?_⟩
  rw [sp.presence hacc, empty_hasInteraction]
  simp [Graph.empty, Int.le_sub_one_iff]

/-- for the graph reached by any history of the add family (removal mode) -/
theorem C09_history (d : Bool) (ops : List Op) :
    (d = true →
      (∀ u v x, (u, v, x) ∈ ((Graph.empty d true).run ops).1.genSnapshots ↔
        ((Graph.empty d true).run ops).1.hasInteraction u v (some x) = true) ∧
      ((Graph.empty d true).run ops).1.genSnapshots.Nodup) ∧
    (d = false →
      (∀ u v x, ((u, v, x) ∈ ((Graph.empty d true).run ops).1.genSnapshots ∨
          (v, u, x) ∈ ((Graph.empty d true).run ops).1.genSnapshots) ↔
        ((Graph.empty d true).run ops).1.hasInteraction u v (some x) = true) ∧
      ((Graph.empty d true).run ops).1.genSnapshots.Pairwise
        (fun r s => ¬ (sameKey false r.1 r.2.1 s.1 s.2.1 = true ∧ r.2.2 = s.2.2))) ∧
    ∃ H, parseSnapshots d (((Graph.empty d true).run ops).1.genSnapshots.map
          (fun r => (r.1, r.2.1, r.2.2, none))) = (H, none) ∧
      WF H ∧ H.directed = d ∧
      ∀ u v x, H.hasInteraction u v (some x) =
        ((Graph.empty d true).run ops).1.hasInteraction u v (some x) := by
  have r := history_ok d ops
  have hn := q1_run_nodeInv d true ops
  refine ⟨fun hdt => C09_rows_directed r.wf r.removal hn (r.directed.trans hdt),
    fun hdf => C09_rows_undirected r.wf r.removal hn (r.directed.trans hdf), ?_⟩
  have := C09_roundtrip r.wf r.removal hn
  rwa [show _ = d from r.directed] at this

/-- the graph read back is present at `x` iff an accepted span of the history covers `x` -/
theorem C09_history_log (d : Bool) (ops : List Op) :
    ∃ H, parseSnapshots d (((Graph.empty d true).run ops).1.genSnapshots.map
          (fun r => (r.1, r.2.1, r.2.2, none))) = (H, none) ∧
      ∀ u v x, H.hasInteraction u v (some x) = true ↔
        inLog d ((Graph.empty d true).runLog ops) u v x := by
  obtain ⟨H, h1, _, _, h4⟩ := (C09_history d ops).2.2
  exact ⟨H, h1, fun u v x => by rw [h4, presence_history]⟩

/-- 1–2 present on [2,3], node 7 isolated with attribute 4 -/
def c09_demo : Graph :=
  ((((Graph.empty false true).addInteraction 1 2 (some 2) (some 4)).1.addNode 7).setAttr 7 4)

example : c09_demo.genSnapshots = [(1, 2, 2), (1, 2, 3)] := by decide

example : (parseSnapshots false (c09_demo.genSnapshots.map (fun r => (r.1, r.2.1, r.2.2, none)))).2 = none ∧
    (parseSnapshots false (c09_demo.genSnapshots.map (fun r => (r.1, r.2.1, r.2.2, none)))).1.edges
      = c09_demo.edges := by decide

/-- two runs of one pair: rows ascending across the runs; directed orientation kept -/
example :
    ((((Graph.empty true true).addInteraction 2 1 (some 1) none).1.addInteraction 2 1 (some 5) (some 7)).1
      ).genSnapshots = [(2, 1, 1), (2, 1, 5), (2, 1, 6)] := by decide

example : (parseSnapshots false [(1, 2, 2, some 4)]).1.hasInteraction 2 1 (some 3) = true ∧
    (parseSnapshots false [(1, 2, 2, some 4)]).1.hasInteraction 2 1 (some 4) = false := by decide

end Dynetx
