import DynetxProofs.Rn.MapInj
import DynetxProofs.C12
import DynetxProofs.Lemmas.FoldExit
import DynetxProofs.Lemmas.Step
import DynetxProofs.ConfWindow
/-
  Node ids are natural numbers in the model; dynetx only ever uses `==`/hash on them.  That nothing depends on which
  numbers stand for the ids (the assumption registered with C01) rests on these theorems: for an injective
  `ρ : Node → Node` the operations commute with `Graph.rename ρ`, same exceptions, results renamed (the `rename` and
  `rn…` maps apply `ρ` to the node components of a value and leave times, tokens and scores alone).  Here:
  `add_interaction`; `has_interaction`, `neighbors`, `predecessors`, `degree`, `interactions` and `out_interactions`
  over all nodes, `nodes(t)`, `has_node`; `time_slice`; `temporal_dag`, `time_respecting_paths`,
  `all_time_respecting_paths`, `annotate_paths`; `delta_conformity`.  `add_interactions_from`, histories, `add_node`,
  `update_node_attr`, sliding, `to_directed`, `to_undirected`, the row-level readers and writers, profiles and
  hierarchies are in Equivariance{History,IO,Conformity}.lean.
  Not covered: `in_interactions`, the degree histogram, density and the measures of Stats.lean, `stream`,
  non-interactions, node snapshots, `generate_interactions`, `node_link_graph`, the sampling variant of
  `time_respecting_paths`, `clear`/`clear_edges`, and the text layer, where an id is a decimal numeral.  The model
  itself names an id in one place, `pathKey [] = (0, 0)`: hence `p ≠ []` in `rn_groupPaths`.

  The proofs run on the simp set `rn` (Rn/MapInj.lean).  Where the two sides branch on the same node-free test,
  `apply_ite` carries the renaming into both branches (`split` would simplify the whole goal again).
-/
namespace Dynetx

section
variable (ρ : Node → Node)

def Edge.rename (e : Edge) : Edge := { e with u := ρ e.u, v := ρ e.v }
def Ev.rename (e : Ev) : Ev := { e with u := ρ e.u, v := ρ e.v }

def Graph.rename (g : Graph) : Graph :=
  { g with nodes := g.nodes.map (fun p => (ρ p.1, p.2)), edges := g.edges.map (Edge.rename ρ),
           events := g.events.map (Ev.rename ρ) }

@[simp, rn] theorem rn_directed (g : Graph) : (g.rename ρ).directed = g.directed := rfl
@[simp] theorem rn_removal (g : Graph) : (g.rename ρ).removal = g.removal := rfl
@[simp] theorem rn_snaps (g : Graph) : (g.rename ρ).snaps = g.snaps := rfl
@[simp] theorem rn_gattr (g : Graph) : (g.rename ρ).gattr = g.gattr := rfl
@[simp, rn] theorem rn_nodes (g : Graph) : (g.rename ρ).nodes = g.nodes.map (fun p => (ρ p.1, p.2)) := rfl
@[simp, rn] theorem rn_edges (g : Graph) : (g.rename ρ).edges = g.edges.map (Edge.rename ρ) := rfl
@[simp] theorem rn_events (g : Graph) : (g.rename ρ).events = g.events.map (Ev.rename ρ) := rfl
@[simp] theorem rn_empty (d r : Bool) : (Graph.empty d r).rename ρ = Graph.empty d r := rfl

@[rn] theorem Edge.rename_u (e : Edge) : (e.rename ρ).u = ρ e.u := rfl
@[rn] theorem Edge.rename_v (e : Edge) : (e.rename ρ).v = ρ e.v := rfl
@[rn] theorem Edge.rename_tl (e : Edge) : (e.rename ρ).tl = e.tl := rfl
@[rn] theorem Ev.rename_u (e : Ev) : (e.rename ρ).u = ρ e.u := rfl
@[rn] theorem Ev.rename_v (e : Ev) : (e.rename ρ).v = ρ e.v := rfl
@[rn] theorem Ev.rename_t (e : Ev) : (e.rename ρ).t = e.t := rfl
@[rn] theorem Ev.rename_plus (e : Ev) : (e.rename ρ).plus = e.plus := rfl

variable {ρ} (hρ : Function.Injective ρ)
include hρ

theorem rn_beq (x y : Node) : (ρ x == ρ y) = (x == y) := beq_of_inj hρ x y

@[rn] theorem rn_sameKey (d : Bool) (u v a b : Node) : sameKey d (ρ u) (ρ v) (ρ a) (ρ b) = sameKey d u v a b := by
  simp only [sameKey, rn, rn_beq hρ]

@[rn] theorem rn_findEdge (g : Graph) (u v : Node) :
    (g.rename ρ).findEdge (ρ u) (ρ v) = (g.findEdge u v).map (Edge.rename ρ) := by
  simp only [Graph.findEdge, rn, hρ]

theorem rn_any_node {α : Type} (nodes : List (Node × α)) (n : Node) :
    (nodes.map (fun p => (ρ p.1, p.2))).any (fun p => p.1 == ρ n) = nodes.any (fun p => p.1 == n) := by
  simp only [rn, rn_beq hρ]

@[rn] theorem rn_hasNodeFlat (g : Graph) (n : Node) : (g.rename ρ).hasNodeFlat (ρ n) = g.hasNodeFlat n := by
  simp only [Graph.hasNodeFlat, rn, rn_beq hρ]

theorem rn_ensureNode (nodes : List (Node × Nat)) (n : Node) :
    ensureNode (nodes.map (fun p => (ρ p.1, p.2))) (ρ n) = (ensureNode nodes n).map (fun p => (ρ p.1, p.2)) := by
  simp only [ensureNode, rn, rn_beq hρ, apply_ite (List.map _)]

theorem rn_addEv (d : Bool) (V : List Ev) (t : Int) (u v : Node) (p : Bool) :
    addEv d (V.map (Ev.rename ρ)) t (ρ u) (ρ v) p = (addEv d V t u v p).map (Ev.rename ρ) := by
  simp only [addEv, rn, hρ, apply_ite (List.map _)]
  rfl

theorem rn_dropEv (d : Bool) (V : List Ev) (t : Int) (u v : Node) (p : Bool) :
    dropEv d (V.map (Ev.rename ρ)) t (ρ u) (ρ v) p = (dropEv d V t u v p).map (Ev.rename ρ) := by
  simp only [dropEv, rn, hρ]

theorem rn_optMinus (d : Bool) (V : List Ev) (e : Option Int) (u v : Node) :
    optMinus d (V.map (Ev.rename ρ)) e (ρ u) (ρ v) = (optMinus d V e u v).map (Ev.rename ρ) := by
  cases e with
  | none => rfl
  | some e => exact rn_addEv hρ d V e u v false

theorem rn_mapTl (g : Graph) (u v : Node) (tl : List Span) :
    mapTl (g.rename ρ) (ρ u) (ρ v) tl = (mapTl g u v tl).map (Edge.rename ρ) := by
  simp only [mapTl, rn, hρ, apply_ite (Edge.rename ρ)]
  rfl

omit hρ in
theorem rn_bumpRange (g : Graph) (lo hi : Int) :
    (g.rename ρ).bumpRange lo hi = (g.bumpRange lo hi).rename ρ := by
  unfold Graph.bumpRange  -- first, as in Lemmas/Fields.lean: plain `rfl` is four times as dear
  rfl

omit hρ in
theorem rn_effE (g : Graph) (e : Option Int) : (g.rename ρ).effE e = g.effE e := rfl

/- The five branches in closed form (Lemmas/Step.lean) write the fields by functions of lists, and each of those
   commutes with the renaming of its list. -/
theorem rn_addNew (g : Graph) (u v : Node) (t0 t1 : Int) (eR : Option Int) :
    (g.rename ρ).addNew (ρ u) (ρ v) t0 t1 eR = (g.addNew u v t0 t1 eR).rename ρ := by
  rw [addNew_eq, addNew_eq]
  simp only [Graph.rename, rn_ensureNode hρ, rn_addEv hρ, rn_optMinus hρ, List.map_append, List.map_cons, List.map_nil,
    Edge.rename]
  rfl

theorem rn_addCovered (g : Graph) (u v : Node) (t1 b : Int) (eR : Option Int) :
    (g.rename ρ).addCovered (ρ u) (ρ v) t1 b eR = (g.addCovered u v t1 b eR).rename ρ := by
  rw [addCovered_eq, addCovered_eq]
  simp only [Graph.rename, rn_optMinus hρ, apply_ite (List.map _)]

theorem rn_addAccum (g : Graph) (u v : Node) (t0 a b : Int) (rest : List Span) :
    (g.rename ρ).addAccum (ρ u) (ρ v) t0 a b rest = (g.addAccum u v t0 a b rest).rename ρ := by
  rw [addAccum_eq, addAccum_eq]
  simp only [Graph.rename, rn_ensureNode hρ, ← rn_mapTl hρ]

theorem rn_addExtend (g : Graph) (u v : Node) (t0 t1 a b : Int) (rest : List Span) (eR : Option Int) :
    (g.rename ρ).addExtend (ρ u) (ρ v) t0 t1 a b rest eR = (g.addExtend u v t0 t1 a b rest eR).rename ρ := by
  rw [addExtend_eq, addExtend_eq]
  cases eR <;>
    simp only [Graph.rename, rn_ensureNode hρ, ← rn_mapTl hρ, rn_addEv hρ, rn_dropEv hρ, apply_ite (List.map _)]

theorem rn_addAppend (g : Graph) (u v : Node) (t0 t1 a b : Int) (rest : List Span) (eR : Option Int) :
    (g.rename ρ).addAppend (ρ u) (ρ v) t0 t1 a b rest eR = (g.addAppend u v t0 t1 a b rest eR).rename ρ := by
  rw [addAppend_eq, addAppend_eq]
  simp only [Graph.rename, rn_ensureNode hρ, ← rn_mapTl hρ, rn_addEv hρ, rn_optMinus hρ]

theorem rn_addInteraction (g : Graph) (u v : Node) (t e : Option Int) :
    (g.rename ρ).addInteraction (ρ u) (ρ v) t e =
      (((g.addInteraction u v t e).1).rename ρ, (g.addInteraction u v t e).2) := by
  -- the tests on `t`, the span, the stored pair and its latest run agree on the two sides: one case split serves both
  show _ = Prod.map (Graph.rename ρ) id _
  cases t with
  | none => rfl
  | some t0 =>
    dsimp only [Graph.addInteraction, rn_effE, rn_removal]
    rw [rn_findEdge hρ]
    rcases spanEnd t0 (g.effE e) with _ | t1
    · rfl
    rcases g.findEdge u v with _ | ⟨a, b, _ | ⟨ab, rest⟩⟩
    · exact congrArg (·, none) (rn_addNew hρ g u v t0 t1 _)
    · rfl
    · simp only [Option.map_some, Edge.rename, apply_ite (Prod.map (Graph.rename ρ) id), Prod.map_apply, id_eq,
        rn_addCovered hρ, rn_addAccum hρ, rn_addExtend hρ, rn_addAppend hρ]

omit hρ in
@[simp] theorem rn_ids (g : Graph) : (g.rename ρ).ids = g.ids := rfl

omit hρ in
@[simp] theorem rn_presenceTest (g : Graph) (tl : List Span) (t : Int) :
    (g.rename ρ).presenceTest tl t = g.presenceTest tl t := rfl

@[rn] theorem rn_hasInteraction (g : Graph) (u v : Node) (t : Option Int) :
    (g.rename ρ).hasInteraction (ρ u) (ρ v) t = g.hasInteraction u v t := by
  simp only [Graph.hasInteraction, rn, hρ]
  cases g.findEdge u v <;> rfl

@[rn] theorem rn_present (g : Graph) (u v : Node) (t : Option Int) :
    (g.rename ρ).present (ρ u) (ρ v) t = g.present u v t := by
  simp only [Graph.present, rn, hρ]

@[rn] theorem rn_succs (g : Graph) (n : Node) : (g.rename ρ).succs (ρ n) = (g.succs n).map ρ := by
  simp only [Graph.succs, rn, rn_beq hρ, List.filterMap_map, List.map_filterMap, apply_ite (Option.map ρ)]

@[rn] theorem rn_preds (g : Graph) (n : Node) : (g.rename ρ).preds (ρ n) = (g.preds n).map ρ := by
  simp only [Graph.preds, rn, rn_beq hρ, List.filterMap_map, List.map_filterMap, apply_ite (Option.map ρ)]

@[rn] theorem rn_neighbors (g : Graph) (n : Node) (t : Option Int) :
    (g.rename ρ).neighbors (ρ n) t = (g.neighbors n t).map ρ := by
  simp only [Graph.neighbors, rn, hρ]

@[rn] theorem rn_predecessors (g : Graph) (n : Node) (t : Option Int) :
    (g.rename ρ).predecessors (ρ n) t = (g.predecessors n t).map ρ := by
  simp only [Graph.predecessors, rn, hρ]

omit hρ in
@[rn] theorem rn_nodeList (g : Graph) : (g.rename ρ).nodeList = g.nodeList.map ρ := by
  simp only [Graph.nodeList, rn]

@[rn] theorem rn_outDegree (g : Graph) (n : Node) (t : Option Int) : (g.rename ρ).outDegree (ρ n) t = g.outDegree n t := by
  simp only [Graph.outDegree, rn, hρ]

@[rn] theorem rn_inDegree (g : Graph) (n : Node) (t : Option Int) : (g.rename ρ).inDegree (ρ n) t = g.inDegree n t := by
  simp only [Graph.inDegree, rn, hρ]

@[rn] theorem rn_degree (g : Graph) (n : Node) (t : Option Int) : (g.rename ρ).degree (ρ n) t = g.degree n t := by
  simp only [Graph.degree, rn, hρ]

theorem rn_interactionsGo (g : Graph) (t : Option Int) (l seen : List Node) :
    (g.rename ρ).interactionsGo t (l.map ρ) (seen.map ρ) =
      (g.interactionsGo t l seen).map (fun p => (ρ p.1, ρ p.2)) := by
  induction l generalizing seen with
  | nil => rfl
  | cons n rest ih =>
    have := ih (n :: seen)
    simp only [List.map_cons] at this
    simp only [Graph.interactionsGo, this, rn, hρ]

theorem rn_interactions_all (g : Graph) (t : Option Int) :
    (g.rename ρ).interactions none t = (g.interactions none t).map (fun p => (ρ p.1, ρ p.2)) := by
  simpa only [Graph.interactions, Graph.nbunch, rn] using rn_interactionsGo hρ g t g.nodeList []

theorem rn_outInteractions_all (g : Graph) (t : Option Int) :
    (g.rename ρ).outInteractions none t = (g.outInteractions none t).map (fun p => (ρ p.1, ρ p.2)) := by
  simp only [Graph.outInteractions, Graph.nbunch, rn, hρ]

theorem rn_nodesAt (g : Graph) (t : Option Int) : (g.rename ρ).nodesAt t = (g.nodesAt t).map ρ := by
  cases t <;> simp only [Graph.nodesAt, rn, hρ]

theorem rn_hasNode (g : Graph) (n : Node) (t : Option Int) : (g.rename ρ).hasNode (ρ n) t = g.hasNode n t := by
  cases t <;> simp only [Graph.hasNode, rn, hρ]

@[rn] theorem rn_timeline (g : Graph) (u v : Node) : (g.rename ρ).timeline (ρ u) (ρ v) = g.timeline u v := by
  simp only [Graph.timeline, rn, hρ]

def rnCalls (ρ : Node → Node) (calls : List (Node × Node × Int × Option Int)) : List (Node × Node × Int × Option Int) :=
  calls.map (fun c => (ρ c.1, ρ c.2.1, c.2.2))

theorem rn_addMany (calls : List (Node × Node × Int × Option Int)) : ∀ (g : Graph),
    (g.rename ρ).addMany (rnCalls ρ calls) = (((g.addMany calls).1).rename ρ, (g.addMany calls).2) := by
  intro g
  rw [addMany_eq, addMany_eq]
  exact foldExit_hom (Graph.rename ρ) _ (fun g r => rn_addInteraction hρ g r.1 r.2.1 (some r.2.2.1) r.2.2.2) g calls

@[rn] theorem rn_interactionsData (g : Graph) :
    (g.rename ρ).interactionsData = g.interactionsData.map (fun d => (ρ d.1, ρ d.2.1, d.2.2)) := by
  simp only [Graph.interactionsData, rn_interactions_all hρ, rn, hρ]

@[rn] theorem rn_outInteractionsData (g : Graph) :
    (g.rename ρ).outInteractionsData = g.outInteractionsData.map (fun d => (ρ d.1, ρ d.2.1, d.2.2)) := by
  simp only [Graph.outInteractionsData, rn_outInteractions_all hρ, rn, hρ]

omit hρ in
theorem rn_sliceCalls (a b : Int) (d : List (Node × Node × List Span)) :
    sliceCalls a b (d.map (fun x => (ρ x.1, ρ x.2.1, x.2.2))) = rnCalls ρ (sliceCalls a b d) := by
  simp only [sliceCalls, rnCalls, rn, List.map_filterMap]

@[rn] theorem rn_copyAttrs (src dst : List (Node × Nat)) :
    copyAttrs (src.map (fun p => (ρ p.1, p.2))) (dst.map (fun p => (ρ p.1, p.2))) =
      (copyAttrs src dst).map (fun p => (ρ p.1, p.2)) := by
  simp only [copyAttrs, rn, rn_beq hρ]

theorem rn_sliceData (g : Graph) :
    (if (g.rename ρ).directed = true then (g.rename ρ).outInteractionsData else (g.rename ρ).interactionsData) =
      (if g.directed = true then g.outInteractionsData else g.interactionsData).map (fun d => (ρ d.1, ρ d.2.1, d.2.2)) := by
  simp only [rn, hρ, apply_ite (List.map _)]

theorem rn_timeSlice (g : Graph) (a : Int) (b : Option Int) :
    (g.rename ρ).timeSlice a b = (g.timeSlice a b).map (Graph.rename ρ) := by
  dsimp only [Graph.timeSlice]
  rw [apply_ite (Except.map (Graph.rename ρ)), rn_sliceData hρ, rn_sliceCalls,
    show Graph.empty (g.rename ρ).directed true = (Graph.empty g.directed true).rename ρ from rfl, rn_addMany hρ]
  refine congrArg (ite _ _) ?_
  rcases (Graph.empty g.directed true).addMany _ with ⟨h, _ | e⟩
  · simp only [Except.map, Graph.rename, rn, hρ]
  · rfl

def rnOcc (ρ : Node → Node) (o : Occ) : Occ := (ρ o.1, o.2)
def rnHop (ρ : Node → Node) (h : Hop) : Hop := (ρ h.1, ρ h.2.1, h.2.2)
def rnEdge (ρ : Node → Node) (e : Occ × Occ) : Occ × Occ := (rnOcc ρ e.1, rnOcc ρ e.2)

omit hρ in
@[rn] theorem rnEdge_fst (e : Occ × Occ) : (rnEdge ρ e).1 = rnOcc ρ e.1 := rfl
omit hρ in
@[rn] theorem rnEdge_snd (e : Occ × Occ) : (rnEdge ρ e).2 = rnOcc ρ e.2 := rfl

theorem rnOcc_inj : Function.Injective (rnOcc ρ) := prod_injective hρ Function.injective_id

theorem rnHop_inj : Function.Injective (rnHop ρ) := prod_injective hρ (prod_injective hρ Function.injective_id)

theorem rnEdge_inj : Function.Injective (rnEdge ρ) := prod_injective (rnOcc_inj hρ) (rnOcc_inj hρ)

def Dag.rename (ρ : Node → Node) (d : Dag) : Dag :=
  { edges := d.edges.map (rnEdge ρ), sources := d.sources.map (rnOcc ρ), targets := d.targets.map (rnOcc ρ),
    active := d.active.map (rnOcc ρ) }

theorem rn_newTargets (v : Option Node) (nb : List Node) (tid : Int) :
    newTargets (v.map ρ) (nb.map ρ) tid = (newTargets v nb tid).map (rnOcc ρ) := by
  cases v <;> simp only [newTargets, rnOcc, rn, hρ, apply_ite (List.map _)]

theorem rn_dagStep (g : Graph) (u : Node) (v : Option Node) (st : Dag) (tid : Int) :
    dagStep (g.rename ρ) (ρ u) (v.map ρ) (st.rename ρ) tid = (dagStep g u v st tid).rename ρ := by
  -- in closed form (`dagStep_closed`) every field is made of `newEdges`, `newTargets` and `insertNew` folds over lists of
  -- occurrences; each of them commutes with `rnOcc` / `rnEdge`, which are injective
  have hact : ((ρ u, tid) : Occ) :: (st.rename ρ).active = ((u, tid) :: st.active).map (rnOcc ρ) := rfl
  have hE : newEdges (g.rename ρ) (ρ u) (st.rename ρ) tid = (newEdges g u st tid).map (rnEdge ρ) := by
    simp only [newEdges, hact, List.flatMap_map, List.map_flatMap, List.map_map, Function.comp_def, rnEdge, rnOcc,
      rn_neighbors hρ]
  have h2 : ((newEdges g u st tid).map (rnEdge ρ)).map (·.2) = ((newEdges g u st tid).map (·.2)).map (rnOcc ρ) := by
    simp only [List.map_map, Function.comp_def, rnEdge]
  simp only [dagStep_closed, hE, h2, hact]
  simp only [Dag.rename, List.flatMap_map, show ∀ o, (rnOcc ρ o).1 = ρ o.1 from fun _ => rfl, rn_neighbors hρ,
    rn_newTargets hρ, ← List.map_flatMap, List.isEmpty_map, List.filter_map, Function.comp_def,
    foldl_insertNew_map_inj (rnOcc_inj hρ), foldl_insertNew_map_inj (rnEdge_inj hρ),
    insertNew_map_inj (rnOcc_inj hρ), contains_map_inj (rnOcc_inj hρ), apply_ite (List.map _),
    show ((ρ u, tid) : Occ) = rnOcc ρ (u, tid) from rfl]

theorem rn_temporalDag (g : Graph) (u : Node) (v : Option Node) (start stop : Option Int) :
    (g.rename ρ).temporalDag (ρ u) (v.map ρ) start stop = (g.temporalDag u v start stop).map (Dag.rename ρ) := by
  dsimp only [Graph.temporalDag, rn_ids]
  rcases minList g.ids with _ | lo
  · rfl
  rcases maxList g.ids with _ | hi
  · rfl
  dsimp only
  rw [apply_ite (Except.map (Dag.rename ρ))]
  exact congrArg (ite _ _) (congrArg Except.ok
    (List.foldl_hom (Dag.rename ρ) (init := Dag.empty) (fun st t => rn_dagStep hρ g u v st t)))

theorem rn_dagNodes (d : Dag) : (d.rename ρ).nodes = d.nodes.map (rnOcc ρ) := by
  have := foldl_insertNew_map_inj (rnOcc_inj hρ) (d.edges.flatMap (fun e => [e.1, e.2])) []
  simpa only [Dag.nodes, Dag.rename, rnEdge, rn] using this

theorem rn_simplePathsGo (edges : List (Occ × Occ)) (target : Occ) (fuel : Nat) :
    ∀ (cur : Occ) (visited : List Occ),
    simplePathsGo (edges.map (rnEdge ρ)) (rnOcc ρ target) fuel (rnOcc ρ cur) (visited.map (rnOcc ρ)) =
      (simplePathsGo edges target fuel cur visited).map (List.map (rnOcc ρ)) := by
  induction fuel with
  | zero => intro cur visited; rfl
  | succ fuel ih =>
    intro cur visited
    have := fun n => ih n (cur :: visited)
    simp only [List.map_cons] at this
    simp only [simplePathsGo, bne, beq_of_inj (rnOcc_inj hρ), contains_map_inj (rnOcc_inj hρ),
      this, rn, apply_ite (List.map _)]

@[rn] theorem rn_simplePaths (d : Dag) (s t : Occ) :
    simplePaths (d.rename ρ) (rnOcc ρ s) (rnOcc ρ t) = (simplePaths d s t).map (List.map (rnOcc ρ)) := by
  simp only [simplePaths, rn_dagNodes hρ, List.length_map]
  exact rn_simplePathsGo hρ d.edges t _ s []

omit hρ in
@[rn] theorem rn_hopsOf (p : List Occ) : hopsOf (p.map (rnOcc ρ)) = (hopsOf p).map (rnHop ρ) := by
  induction p with
  | nil => rfl
  | cons a p ih =>
    cases p with
    | nil => rfl
    | cons b rest => exact congrArg (List.cons _) ih

theorem rn_pingPongOk (p : TPath) : pingPongOk (p.map (rnHop ρ)) = pingPongOk p := by
  induction p with
  | nil => rfl
  | cons a p ih =>
    cases p with
    | nil => rfl
    | cons b rest =>
      rw [List.map_cons, List.map_cons, pingPongOk, ← List.map_cons, ih, pingPongOk]
      simp only [rnHop, rn_beq hρ]

omit hρ in
theorem rn_pathKey (p : TPath) (hne : p ≠ []) : pathKey (p.map (rnHop ρ)) = (ρ (pathKey p).1, ρ (pathKey p).2) := by
  obtain ⟨a, rest, rfl⟩ := List.exists_cons_of_ne_nil hne
  simp only [pathKey, List.getLast?_map, List.head?_map, List.head?_cons,
    List.getLast?_eq_some_getLast (List.cons_ne_nil a rest), Option.map_some]
  rfl

def rnGroups (ρ : Node → Node) (r : List ((Node × Node) × List TPath)) : List ((Node × Node) × List TPath) :=
  r.map (fun kp => ((ρ kp.1.1, ρ kp.1.2), kp.2.map (List.map (rnHop ρ))))

theorem rn_pair_inj : Function.Injective (fun k : Node × Node => (ρ k.1, ρ k.2)) := prod_injective hρ hρ

theorem rn_groupPaths (ps : List TPath) (hne : ∀ p ∈ ps, p ≠ []) :
    groupPaths (ps.map (List.map (rnHop ρ))) = rnGroups ρ (groupPaths ps) := by
  -- through `groupPaths_eq`: the key of a renamed path is the renamed key (`hk`, where `p ≠ []` is used), and renaming a
  -- pair is injective
  have hk : ∀ p ∈ ps, pathKey (p.map (rnHop ρ)) = (fun k : Node × Node => (ρ k.1, ρ k.2)) (pathKey p) :=
    fun p hp => rn_pathKey p (hne p hp)
  have hkeys : (ps.map (List.map (rnHop ρ))).map pathKey = (ps.map pathKey).map fun k => (ρ k.1, ρ k.2) := by
    rw [List.map_map, List.map_map]; exact List.map_congr_left hk
  rw [groupPaths_eq, groupPaths_eq, hkeys, ← List.map_nil (f := fun k : Node × Node => (ρ k.1, ρ k.2)),
    foldl_insertNew_map_inj (rn_pair_inj hρ), rnGroups, List.map_map, List.map_map]
  refine List.map_congr_left fun k _ => ?_
  simp only [Function.comp, List.filter_map, Prod.mk.injEq, true_and]
  exact congrArg _ (List.filter_congr fun p hp => by
    simp only [Function.comp, hk p hp, beq_of_inj (rn_pair_inj hρ)])

omit hρ in
theorem rn_pairs (d : Dag) : (d.rename ρ).pairs = d.pairs.map (rnEdge ρ) := by
  simp only [Dag.pairs, Dag.rename, rnEdge, rn]

theorem rn_keptPaths (d : Dag) (pairs : List (Occ × Occ)) :
    keptPaths (d.rename ρ) (pairs.map (rnEdge ρ)) = (keptPaths d pairs).map (List.map (rnHop ρ)) := by
  -- the enumerated paths are the renamed ones (`hraw`), the ping-pong filter does not see the renaming, and the
  -- de-duplication is an `insertNew` fold under an injective map
  have hraw : (pairs.map (rnEdge ρ)).flatMap (fun st => (simplePaths (d.rename ρ) st.1 st.2).map hopsOf) =
      (pairs.flatMap fun st => (simplePaths d st.1 st.2).map hopsOf).map (List.map (rnHop ρ)) := by
    simp only [rn, hρ]
  rw [keptPaths, hraw, List.filter_map]
  simp only [Function.comp_def, rn_pingPongOk hρ, List.isEmpty_map]
  rw [← List.map_nil (f := List.map (rnHop ρ)), foldl_insertNew_map_inj (map_injective (rnHop_inj hρ))]
  rfl

theorem rn_timeRespectingPaths (g : Graph) (u : Node) (v : Option Node) (start stop : Option Int) :
    (g.rename ρ).timeRespectingPaths (ρ u) (v.map ρ) start stop =
      (g.timeRespectingPaths u v start stop).map (rnGroups ρ) := by
  unfold Graph.timeRespectingPaths
  rw [rn_hasNode hρ, rn_temporalDag hρ, apply_ite (Except.map (rnGroups ρ))]
  refine congrArg (ite _ _) ?_
  rcases g.temporalDag u v start stop with e | d
  · rfl
  · show Except.ok (groupPaths (keptPaths (d.rename ρ) (d.rename ρ).pairs)) = _
    rw [rn_pairs, rn_keptPaths hρ, rn_groupPaths hρ _ fun p hp => (mem_keptPaths.mp hp).2.2]
    rfl

theorem rn_allStep (g : Graph) (start stop : Option Int) (res : c13_Res) (u : Node) :
    c13_allStep (g.rename ρ) start stop (rnGroups ρ res) (ρ u) = (c13_allStep g start stop res u).map (rnGroups ρ) := by
  have h := rn_timeRespectingPaths hρ g u none start stop
  simp only [Option.map_none] at h
  simp only [c13_allStep, h]
  cases g.timeRespectingPaths u none start stop with
  | error e => rfl
  | ok paths =>
    -- the merge `res[(u, v)] = paths` is a dictionary write under the renamed key
    exact congrArg Except.ok (List.foldl_map.trans (List.foldl_hom (rnGroups ρ) fun res kp =>
      map_upsert _ _ (rn_pair_inj hρ) (fun _ => rfl) res (u, kp.1.2) (fun _ => ((u, kp.1.2), kp.2)) _ kp.2 fun _ => rfl))

theorem rn_allTimeRespectingPaths (g : Graph) (start stop minT : Option Int) :
    (g.rename ρ).allTimeRespectingPaths start stop minT =
      (g.allTimeRespectingPaths start stop minT).map (rnGroups ρ) := by
  have key (us : List Node) : ∀ res, (us.map ρ).foldlM (c13_allStep (g.rename ρ) start stop) (rnGroups ρ res) =
      (us.foldlM (c13_allStep g start stop) res).map (rnGroups ρ) := by
    induction us with
    | nil => intro res; rfl
    | cons u rest ih =>
      intro res
      simp only [List.map_cons, List.foldlM_cons, bind, Except.bind, rn_allStep hρ]
      cases c13_allStep g start stop res u with
      | error e => rfl
      | ok r => exact ih r
  rw [c13_all_eq_foldlM, c13_all_eq_foldlM, rn_nodesAt hρ]
  exact key _ []

omit hρ in
theorem rn_pathLength (p : TPath) : pathLength (p.map (rnHop ρ)) = pathLength p := by
  simp only [pathLength, List.length_map]

omit hρ in
theorem rn_lastTime (p : TPath) : lastTime (p.map (rnHop ρ)) = lastTime p := by
  simp only [lastTime, List.getLast?_map, Option.map_map, Function.comp_def, rnHop]

omit hρ in
theorem rn_firstTime (p : TPath) : firstTime (p.map (rnHop ρ)) = firstTime p := by
  simp only [firstTime, List.head?_map, Option.map_map, Function.comp_def, rnHop]

omit hρ in
theorem rn_pathDuration (p : TPath) : pathDuration (p.map (rnHop ρ)) = pathDuration p := by
  simp only [pathDuration, rn_lastTime, rn_firstTime]

omit hρ in
theorem rn_trackMin_foldl {κ : Type} (lt eq : κ → κ → Bool) (key : TPath → κ)
    (hkey : ∀ p, key (p.map (rnHop ρ)) = key p) (ps : List TPath) :
    ((ps.map (List.map (rnHop ρ))).foldl (trackMin lt eq key) (none, [])).2 =
      (ps.foldl (trackMin lt eq key) (none, [])).2.map (List.map (rnHop ρ)) := by
  rw [List.foldl_map]
  refine congrArg Prod.snd (List.foldl_hom (Prod.map id (List.map (List.map (rnHop ρ)))) (init := (none, []))
    (fun st p => ?_))
  obtain ⟨_ | m, acc⟩ := st
  · exact congrArg (fun k => (some k, _)) (hkey p)
  · simp only [trackMin, hkey, apply_ite (Prod.map id (List.map (List.map (rnHop ρ)))), Prod.map_apply, id_eq,
      List.map_append, List.map_cons, List.map_nil]

theorem rn_secondary (f : TPath → Int) (hf : ∀ p, f (p.map (rnHop ρ)) = f p) (l : List TPath) :
    secondary f (l.map (List.map (rnHop ρ))) = (secondary f l).map (List.map (rnHop ρ)) := by
  have hk := foldl_insertNew_map_inj (map_injective (rnHop_inj hρ)) l []
  simp only [List.map_nil] at hk
  simp only [secondary, hk, List.map_map, Function.comp_def, hf]
  cases minList ((l.foldl insertNew []).map f) with
  | none => rfl
  | some m => simp only [List.filter_map, Function.comp_def, hf]

def Annot.rename (ρ : Node → Node) (a : Annot) : Annot :=
  { shortest := a.shortest.map (List.map (rnHop ρ)), fastest := a.fastest.map (List.map (rnHop ρ)),
    foremost := a.foremost.map (List.map (rnHop ρ)), fastestShortest := a.fastestShortest.map (List.map (rnHop ρ)),
    shortestFastest := a.shortestFastest.map (List.map (rnHop ρ)) }

theorem rn_annotatePaths (ps : List TPath) :
    annotatePaths (ps.map (List.map (rnHop ρ))) = (annotatePaths ps).rename ρ := by
  simp only [annotatePaths, Annot.rename, rn_trackMin_foldl _ _ _ rn_pathLength, rn_trackMin_foldl _ _ _ rn_pathDuration,
    rn_trackMin_foldl _ _ _ rn_lastTime, rn_secondary hρ pathDuration rn_pathDuration,
    rn_secondary hρ (fun p => (pathLength p : Int)) (fun p => by simp only [rn_pathLength])]

theorem rn_selectPaths (ps : List TPath) (ptype : Nat) :
    selectPaths (annotatePaths (ps.map (List.map (rnHop ρ)))) ptype =
      (selectPaths (annotatePaths ps) ptype).map (List.map (rnHop ρ)) := by
  rw [rn_annotatePaths hρ]
  unfold selectPaths Annot.rename
  split <;> rfl

@[rn] theorem rn_label (g : Graph) (n : Node) : (g.rename ρ).label (ρ n) = g.label n := by
  simp only [Graph.label, rn, rn_beq hρ]

def rnDist (ρ : Node → Node) (td : List (Node × Nat)) : List (Node × Nat) := td.map (fun e => (ρ e.1, e.2))

theorem rn_tDistances (sp : List ((Node × Node) × List TPath)) (ptype : Nat) (u : Node) :
    tDistances (rnGroups ρ sp) ptype (ρ u) = rnDist ρ (tDistances sp ptype u) := by
  rw [tDistances_eq_foldl, tDistances_eq_foldl, rnGroups, List.foldl_map]
  refine List.foldl_hom (rnDist ρ) (init := []) (fun acc kp => ?_)
  simp only [tdStep, rn_beq hρ, bne, rn_selectPaths hρ, List.map_map, Function.comp_def, List.length_map]
  rw [apply_ite (rnDist ρ)]
  refine congrArg (ite _ · _) ?_
  cases minNat ((selectPaths (annotatePaths kp.2) ptype).map (·.length)) with
  | none => rfl
  | some m => exact map_upsert _ ρ hρ (fun _ => rfl) acc kp.1.2 _ _ m (fun _ => rfl)

omit hρ in
theorem rn_remapDistances (td : List (Node × Nat)) : remapDistances (rnDist ρ td) = rnDist ρ (remapDistances td) := by
  simp only [remapDistances, rnDist, rn]

theorem rn_labelFrequency (g : Graph) (u : Node) (nodes : List Node) (td : List (Node × Nat)) :
    labelFrequency (g.rename ρ) (ρ u) (nodes.map ρ) (rnDist ρ td) = labelFrequency g u nodes td := by
  simp only [labelFrequency, rnDist, rn, hρ, rn_beq hρ]

/- the `nodes` at a rank and the values whose sorted set is `ranks`, as `nodeScoreW` writes them: C20.lean, which names
   them (`nodesAtRank`, `ranksOf`), loads Mathlib and is not imported here -/
omit hρ in
theorem rn_rank_nodes (td : List (Node × Nat)) (d : Nat) :
    ((rnDist ρ td).filter (fun e => e.2 == d)).map (·.1) = ((td.filter (fun e => e.2 == d)).map (·.1)).map ρ := by
  simp only [rnDist, rn]

omit hρ in
theorem rn_rank_vals (td : List (Node × Nat)) : (rnDist ρ td).map (·.2) = td.map (·.2) := by
  simp only [rnDist, rn]

/- The scores name their steps instead of calling the whole of `rn`: `List.map_map` would fuse the `(… .map (·.1)).map ρ`
   of `rn_rank_nodes` into one map, and `rn_labelFrequency` expects the node list as `nodes.map ρ`. -/
theorem rn_nodeScoreW (g : Graph) (sp : c13_Res) (ptype : Nat) (w : Nat → Rat) (u : Node) :
    nodeScoreW (g.rename ρ) (rnGroups ρ sp) ptype w (ρ u) = nodeScoreW g sp ptype w u := by
  simp only [nodeScoreW, rn_tDistances hρ, rn_remapDistances, rn_rank_vals, rn_rank_nodes, rn_labelFrequency hρ]

theorem rn_nodeScore (g : Graph) (sp : c13_Res) (ptype alpha : Nat) (u : Node) :
    nodeScore (g.rename ρ) (rnGroups ρ sp) ptype alpha (ρ u) = nodeScore g sp ptype alpha u :=
  rn_nodeScoreW hρ g sp ptype (fun d => ((d : Nat) : Rat) ^ alpha) u

def rnConf (ρ : Node → Node) (r : Option (List (Nat × List (Node × Rat)))) : Option (List (Nat × List (Node × Rat))) :=
  r.map (fun l => l.map (fun ar => (ar.1, ar.2.map (fun nv => (ρ nv.1, nv.2)))))

theorem rn_confWindow {β : Type} (q : β → β) (dg : Graph) (start delta : Int)
    (k k' : Graph → c13_Res → Except Err (Option β))
    (hk : ∀ g sp, k' (g.rename ρ) (rnGroups ρ sp) = (k g sp).map (Option.map q)) :
    confWindow (dg.rename ρ) start delta k' = (confWindow dg start delta k).map (Option.map q) :=
  confWindow_transport (Graph.rename ρ) (rnGroups ρ) _ (fun _ => rfl) rfl dg start delta k k' (rn_timeSlice hρ dg _ _)
    (fun _ => rfl) (fun g s e => rn_allTimeRespectingPaths hρ g s e none) (fun g _ _ _ sp _ => hk g sp)

/-- **C20 (node renaming).** Renaming the node ids with any injective map renames the keys of the result of
    `delta_conformity` and leaves every score unchanged (same order, same exceptions). -/
theorem C20_rename_nodes (dg : Graph) (start delta : Int) (alphas : List Nat) (ptype : Nat) :
    (dg.rename ρ).deltaConformity start delta alphas ptype =
      (dg.deltaConformity start delta alphas ptype).map (rnConf ρ) := by
  rw [deltaConformity_eq, deltaConformity_eq]
  refine rn_confWindow hρ _ dg start delta _ _ (fun g sp => ?_)
  simp only [Except.map, Option.map_some, rn_nodesAt hρ, List.map_map, Function.comp_def, rn_nodeScore hρ]

/-- the same with each exponent given by its table of powers (`deltaConformityW`) -/
theorem C20W_rename_nodes (dg : Graph) (start delta : Int) (alphas : List (Nat × (Nat → Rat))) (ptype : Nat) :
    (dg.rename ρ).deltaConformityW start delta alphas ptype =
      (dg.deltaConformityW start delta alphas ptype).map (rnConf ρ) := by
  rw [deltaConformityW_eq, deltaConformityW_eq]
  refine rn_confWindow hρ _ dg start delta _ _ (fun g sp => ?_)
  simp only [Except.map, Option.map_some, rn_nodesAt hρ, List.map_map, Function.comp_def, rn_nodeScoreW hρ]

end
end Dynetx
