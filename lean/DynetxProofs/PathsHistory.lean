import DynetxProofs.Lemmas.Counts
import DynetxProofs.C13
/-
  The path theorems C12 / C13 / C15 take "the snapshot ids are strictly increasing" as a hypothesis.  It holds for every
  graph the library can build, in BOTH modes (removal-enabled and accumulative): the snapshot counters are only ever
  written through `bump` (keys stay distinct).  Consequently the theorems hold for every history, which is how the
  correspondence runs use them (one path case in seven is built with `edge_removal=False`).
-/
namespace Dynetx

/-- **the snapshot ids of every history are strictly increasing — both classes, both modes** -/
theorem ids_strict_history (d r : Bool) (ops : List Op) : ((Graph.empty d r).run ops).1.ids.Pairwise (· < ·) :=
  ids_strict_of_snapsOk (run_snapsOk ops _ snapsOk_empty)

/-- `clear()` / `clear_edges()`, which are not among the operations of a history (`Op`), leave no snapshot counter, so
    the invariant holds after them as well -/
theorem clear_snapsOk (g : Graph) : SnapsOk g.clear.snaps ∧ SnapsOk g.clearEdges.snaps :=
  ⟨snapsOk_empty, snapsOk_empty⟩

/-- **C12 (soundness) for every history**, removal-enabled or accumulative -/
theorem C12_sound_history (d r : Bool) (ops : List Op) (u : Node) (v : Option Node) (start stop : Option Int)
    (res : List ((Node × Node) × List TPath)) :
    let g := ((Graph.empty d r).run ops).1
    g.timeRespectingPaths u v start stop = .ok res →
    ∀ kp ∈ res, ∀ p ∈ kp.2, ValidTRP g u v (dagWindow g start stop) p ∧ kp.1 = pathKey p := by
  intro g h
  exact C12_sound g (ids_strict_history d r ops) u v start stop res h

/-- **C13 (exactness) for every history**, removal-enabled or accumulative -/
theorem C13_exact_history (d r : Bool) (ops : List Op) (u : Node) (v : Option Node) (start stop : Option Int)
    (res : List ((Node × Node) × List TPath)) :
    let g := ((Graph.empty d r).run ops).1
    g.timeRespectingPaths u v start stop = .ok res → g.hasNode u start = true →
    (∀ t ∈ dagWindow g start stop, u ∉ g.neighbors u (some t)) →
    ∀ p, (∃ kp ∈ res, p ∈ kp.2) ↔ ValidTRP g u v (dagWindow g start stop) p := by
  intro g h hu hloop p
  exact C13_exact g (ids_strict_history d r ops) u v start stop res h hu hloop p

/-- **C15 (edge times) for every history** -/
theorem C15_edge_time_history (d r : Bool) (ops : List Op) (u : Node) (v : Option Node) (start stop : Option Int)
    (dag : Dag) :
    let g := ((Graph.empty d r).run ops).1
    g.temporalDag u v start stop = .ok dag →
    ∀ e ∈ dag.edges, e.1.2 < e.2.2 ∨ (e.1 ∈ dag.sources ∧ e.1.2 = e.2.2) := by
  intro g h
  exact C15_edge_time g u v start stop dag (ids_strict_history d r ops) h

end Dynetx
