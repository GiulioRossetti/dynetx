import DynetxProofs.C17
import DynetxProofs.C06
/-
  C17 (continued): `node_density(u)` and `snapshot_density(t)` lie in [0, 1].  The slice is rebuilt from the
  empty graph, so `snapshot_density` needs nothing of the source but the absence of self-loops.
-/
namespace Dynetx

/-- double counting -/
theorem c17d_sum_swap {α β : Type} (A : List α) (B : List β) (R : α → β → Bool) :
    sumNat (A.map (fun a => (B.filter (R a)).length))
      = sumNat (B.map (fun b => (A.filter (fun a => R a b)).length)) := by
  induction A with
  | nil =>
    show 0 = sumNat (B.map fun _ => 0)
    rw [c17_sumNat_eq, List.map_const', List.sum_replicate_nat, Nat.mul_zero]
  | cons a rest ih =>
    have h1 : (fun b => ((a :: rest).filter (fun a' => R a' b)).length)
        = (fun b => b2n (R a b) + (rest.filter (fun a' => R a' b)).length) := by
      funext b
      rw [List.filter_cons]
      cases R a b
      · exact (Nat.zero_add _).symm
      · exact Nat.add_comm _ 1
    rw [List.map_cons, c17_sumNat_cons, ih, h1, c17_sum_map_add, c17_sum_b2n]

/-- the denominator of `node_density(u)` summed the other way round: Σ_t [u ∈ V_t] · |V_t| -/
theorem c17d_nodeDensity_den (g : Graph) (u : Node) :
    (g.nodeDensity u).2 =
      sumNat (g.snapKeys.map (fun t =>
        (g.nodeList.filter (fun v => g.hasNode v (some t) && g.hasNode u (some t))).length)) := by
  show sumNat (g.nodeList.map (fun v =>
      ((g.nodePresence v).filter (fun t => (g.nodePresence u).contains t)).length)) = _
  rw [← c17d_sum_swap g.nodeList g.snapKeys (fun v t => g.hasNode v (some t) && g.hasNode u (some t))]
  congr 1
  apply List.map_congr_left
  intro v _
  rw [c17_presence_inter]

theorem c17d_degree_le_present (g : Graph) (hd : g.directed = false) (hk : q1_Keys g)
    (hn : ∀ e ∈ g.edges, g.hasNodeFlat e.u = true ∧ g.hasNodeFlat e.v = true) (u : Node) (t : Int) :
    (if g.hasNode u (some t) then g.degree u (some t) else 0)
      ≤ (g.nodeList.filter (fun v => g.hasNode v (some t) && g.hasNode u (some t))).length := by
  cases hu : g.hasNode u (some t) with
  | false => exact Nat.zero_le _
  | true =>
    rw [if_pos rfl, C02_degree_undirected g hd]
    apply List.Nodup.length_le_of_subset ((q1_succs_nodup_of_keys hk u).filter _)
    intro m hm
    have hi := (C02_neighbors g u m (some t)).mp hm
    rw [List.mem_filter]
    exact ⟨(q1_hasNodeFlat_iff g m).mp (q1_node_of_flat hn hi).2, by rw [(c17_hasInteraction_hasNode g hn hi).2]; rfl⟩

/-- `node_density(u)` ≤ 1 on an undirected graph in which no pair is stored twice and the endpoints of
    stored pairs are nodes (any mode, self-loops allowed) -/
theorem C17_nodeDensity_le (g : Graph) (hd : g.directed = false) (hk : q1_Keys g)
    (hn : ∀ e ∈ g.edges, g.hasNodeFlat e.u = true ∧ g.hasNodeFlat e.v = true) (u : Node) :
    (g.nodeDensity u).1 ≤ (g.nodeDensity u).2 := by
  rw [c17d_nodeDensity_den]
  show sumNat (g.snapKeys.map (fun t => if g.hasNode u (some t) then g.degree u (some t) else 0)) ≤ _
  exact c17_sum_le_sum _ _ _ (fun t _ => c17d_degree_le_present g hd hk hn u t)

theorem C17_nodeDensity_le_wf (g : Graph) (hd : g.directed = false) (h : WF g) (hn : NodeInv g) (u : Node) :
    (g.nodeDensity u).1 ≤ (g.nodeDensity u).2 :=
  C17_nodeDensity_le g hd h.keys hn.endpoints u

/-- no self-loop is stored: the hypothesis of `C17_snapshotDensity_le` (a loop adds 1 to `m` and nothing to `n·(n − 1)`), kept by
    every add call on a pair of distinct nodes -/
def c17d_NoLoop (g : Graph) : Prop := ∀ e ∈ g.edges, e.u ≠ e.v

theorem c17d_noLoop_of_frame {g g' : Graph} {u v : Node} (h : c17d_NoLoop g) (huv : u ≠ v)
    (f : AddFrame g u v g') : c17d_NoLoop g' := by
  intro e' he'
  rcases f.shape with ⟨_, hed⟩ | ⟨_, ⟨_, tl, hed⟩ | ⟨_, tl, _, hed⟩⟩ <;> rw [hed] at he'
  · exact h e' he'
  · rcases List.mem_append.mp he' with he' | he'
    · exact h e' he'
    · rw [List.mem_singleton.mp he']; exact huv
  · obtain ⟨e, he, hu, hv, _⟩ := mem_mapTl_proj.mp he'
    rw [hu, hv]; exact h e he

theorem c17d_noLoop_has {g : Graph} (h : c17d_NoLoop g) {a b : Node} {t : Option Int}
    (hi : g.hasInteraction a b t = true) : a ≠ b := by
  obtain ⟨e, he, hk⟩ := (hasInteraction_flat_iff g a b).mp (q1_has_some_flat g a b t hi)
  rcases (sameKey_iff ..).mp hk with ⟨rfl, rfl⟩ | ⟨_, rfl, rfl⟩
  · exact h e he
  · exact (h e he).symm

theorem c17d_degree_le (g : Graph) (hd : g.directed = false) (hk : q1_Keys g) (hl : c17d_NoLoop g)
    (hn : ∀ e ∈ g.edges, g.hasNodeFlat e.u = true ∧ g.hasNodeFlat e.v = true)
    (v : Node) (hv : v ∈ g.nodeList) (t : Option Int) : g.degree v t ≤ g.nodeList.length - 1 := by
  rw [C02_degree_undirected g hd]
  have hnd : (v :: g.neighbors v t).Nodup := by
    rw [List.nodup_cons]
    refine ⟨?_, (q1_succs_nodup_of_keys hk v).filter _⟩
    intro hm
    exact c17d_noLoop_has hl ((C02_neighbors g v v t).mp hm) rfl
  have hsub : ∀ x ∈ v :: g.neighbors v t, x ∈ g.nodeList := by
    intro x hx
    rcases List.mem_cons.mp hx with rfl | hx
    · exact hv
    · exact (q1_hasNodeFlat_iff g x).mp (q1_node_of_flat hn ((C02_neighbors g v x t).mp hx)).2
  exact Nat.le_sub_one_of_lt (List.Nodup.length_le_of_subset hnd hsub)

/-- 2·m ≤ n·(n − 1): the handshake bound of a simple graph, as `size`/`nodes` compute `m` and `n` -/
theorem c17d_simple_bound (g : Graph) (hd : g.directed = false) (hk : q1_Keys g) (hl : c17d_NoLoop g)
    (hn : ∀ e ∈ g.edges, g.hasNodeFlat e.u = true ∧ g.hasNodeFlat e.v = true) (t : Option Int) :
    2 * g.size t ≤ g.nodes.length * (g.nodes.length - 1) := by
  have h1 : g.degreeSum t ≤ g.nodeList.length * (g.nodeList.length - 1) :=
    c17_sum_le_mul g.nodeList (fun n => g.degree n t) _ (fun v hv => c17d_degree_le g hd hk hl hn v hv t)
  rw [Graph.nodeList, List.length_map] at h1
  exact Nat.le_trans (Nat.mul_div_le _ 2) h1

theorem c17d_sliceCalls_noLoop (g : Graph) (hl : c17d_NoLoop g) (a b : Int) :
    ∀ c ∈ sliceCalls a b g.interactionsData, c.1 ≠ c.2.1 := by
  intro c hc
  obtain ⟨p, hp, e1, e2⟩ := c06_sliceCalls_pair hc
  obtain ⟨q, hq, rfl⟩ := List.mem_map.mp hp
  rw [e1, e2]
  exact c17d_noLoop_has hl (C02_interactions_mem g none q.1 q.2 hq)

theorem c17d_slice_simple (g : Graph) (hd : g.directed = false) (hl : c17d_NoLoop g) (a : Int)
    (bo : Option Int) (H : Graph) (hH : g.timeSlice a bo = .ok H) :
    H.directed = false ∧ q1_Keys H ∧ c17d_NoLoop H ∧
      (∀ e ∈ H.edges, H.hasNodeFlat e.u = true ∧ H.hasNodeFlat e.v = true) := by
  have hinv := c06_slice_inv hH
  refine ⟨(c06_slice_directed hH).trans hd, hinv.wf.keys, ?_, hinv.nodeInv.endpoints⟩
  obtain ⟨_, h0, hres, rfl⟩ := timeSlice_ok_iff.mp hH
  unfold c06_data at hres
  simp only [hd, Bool.false_eq_true, if_false] at hres
  have hnl : c17d_NoLoop ((Graph.empty false true).addMany (sliceCalls a (bo.getD a) g.interactionsData)).1 :=
    addMany_induction _ (List.forall_mem_nil _) fun g' hg c hc =>
      c17d_noLoop_of_frame hg (c17d_sliceCalls_noLoop g hl a (bo.getD a) c hc) (addInteraction_frame ..)
  rw [hres] at hnl
  exact hnl

/-- `snapshot_density(t)` ≤ 1 on an undirected graph without stored self-loop (any mode; nothing else is
    assumed of `g`) -/
theorem C17_snapshotDensity_le (g : Graph) (hd : g.directed = false) (hl : ∀ e ∈ g.edges, e.u ≠ e.v)
    (t : Int) (r : Nat × Nat) (h : g.snapshotDensity t = .ok r) : r.1 ≤ r.2 := by
  unfold Graph.snapshotDensity at h
  cases hH : g.timeSlice t none with
  | error e => rw [hH] at h; cases h
  | ok H =>
    rw [hH] at h
    obtain ⟨hd', hk', hl', hn'⟩ := c17d_slice_simple g hd hl t none H hH
    cases h
    split
    · exact Nat.zero_le _
    · exact c17d_simple_bound H hd' hk' hl' hn' none

theorem c17d_run_noLoop_empty (d r : Bool) (ops : List Op)
    (hops : ∀ op ∈ ops, ∀ p ∈ op.pairs, p.1 ≠ p.2) : c17d_NoLoop ((Graph.empty d r).run ops).1 :=
  run_induction ops (List.forall_mem_nil _) fun _ hg op hop p hp =>
    c17d_noLoop_of_frame hg (hops op hop p hp) (addInteraction_frame ..)

/-- both bounds for every state reached from the empty undirected graph (either mode) by add calls none of
    which names a pair `(n, n)`; the node-density half does not need that restriction -/
theorem C17_density_history_anymode (r : Bool) (ops : List Op) :
    let g := ((Graph.empty false r).run ops).1
    (∀ u, (g.nodeDensity u).1 ≤ (g.nodeDensity u).2) ∧
    ((∀ op ∈ ops, ∀ p ∈ op.pairs, p.1 ≠ p.2) →
      ∀ t res, g.snapshotDensity t = .ok res → res.1 ≤ res.2) := by
  intro g
  have hd : g.directed = false := run_directed _ ops
  refine ⟨fun u => C17_nodeDensity_le g hd (q1_run_keys false r ops) (q1_run_nodeInv false r ops).endpoints u, ?_⟩
  intro hops t res h
  exact C17_snapshotDensity_le g hd (c17d_run_noLoop_empty false r ops hops) t res h

/-- both bounds for every history of add calls on `DynGraph(edge_removal=True)` none of which names a
    pair `(n, n)` -/
theorem C17_density_history (ops : List Op) (hops : ∀ op ∈ ops, ∀ p ∈ op.pairs, p.1 ≠ p.2) :
    let g := ((Graph.empty false true).run ops).1
    (∀ u, (g.nodeDensity u).1 ≤ (g.nodeDensity u).2) ∧
    (∀ t res, g.snapshotDensity t = .ok res → res.1 ≤ res.2) := by
  have h := C17_density_history_anymode true ops
  exact ⟨h.1, h.2 hops⟩

/-- on such a history `snapshot_density(t)` always returns (so the bound above is not vacuous) -/
theorem C17_snapshotDensity_history_ok (ops : List Op) (t : Int) :
    ∃ res, ((Graph.empty false true).run ops).1.snapshotDensity t = .ok res := by
  have r := history_ok false ops
  obtain ⟨H, hH⟩ := C06_ok _ r.wf r.removal (q1_run_nodeInv false true ops) t none (by intro b hb; cases hb)
  unfold Graph.snapshotDensity
  rw [hH]
  exact ⟨_, rfl⟩

/-- pairs (0,1), (0,2) at 0 and (1,2) at 1 -/
def c17d_ex : Graph :=
  ((Graph.empty false true).addMany [(0, 1, 0, none), (0, 2, 0, none), (1, 2, 1, none)]).1

/-- the hypotheses of both theorems hold of `c17d_ex` and the values are not trivial -/
example : c17d_ex.directed = false ∧ q1_Keys c17d_ex ∧ (∀ e ∈ c17d_ex.edges, e.u ≠ e.v) ∧
    (∀ e ∈ c17d_ex.edges, c17d_ex.hasNodeFlat e.u = true ∧ c17d_ex.hasNodeFlat e.v = true) ∧
    c17d_ex.nodeDensity 0 = (2, 3) ∧ c17d_ex.nodeDensity 1 = (2, 5) ∧
    (c17d_ex.snapshotDensity 0).toOption = some (4, 6) ∧ (c17d_ex.snapshotDensity 1).toOption = some (2, 2) ∧
    (c17d_ex.snapshotDensity 7).toOption = some (0, 1) := by decide

example : (c17d_ex.nodeDensity 0).1 ≤ (c17d_ex.nodeDensity 0).2 :=
  C17_nodeDensity_le c17d_ex (by decide) (by decide) (by decide) 0

example : ∀ r, c17d_ex.snapshotDensity 0 = .ok r → r.1 ≤ r.2 :=
  fun r h => C17_snapshotDensity_le c17d_ex (by decide) (by decide) 0 r h

/-! ### the hypotheses cannot be dropped -/

/-- self-loops: `snapshot_density` of {1-1, 1-2, 2-2} is 4/2 (as `nx.density` gives with loops) -/
example : ((((Graph.empty false true).addMany
    [(1, 1, 0, none), (1, 2, 0, none), (2, 2, 0, none)]).1).snapshotDensity 0).toOption = some (4, 2) := by decide

/-- the directed class: the model's `snapshot_density` doubles `m` whatever the class -/
example : ((((Graph.empty true true).addMany
    [(1, 2, 0, none), (2, 1, 0, none)]).1).snapshotDensity 0).toOption = some (4, 2) := by decide

/-- the directed class: `degree` is in + out, the denominator counts every node once -/
example : (((Graph.empty true true).addMany
    [(1, 2, 0, none), (2, 1, 0, none), (1, 3, 0, none), (3, 1, 0, none)]).1).nodeDensity 1 = (4, 3) := by decide

/-- endpoints that are not nodes (not reachable through the API): 2/1 -/
example : ({ Graph.empty false true with
    nodes := [(0, 0)], edges := [⟨0, 1, [(0, 0)]⟩, ⟨0, 2, [(0, 0)]⟩], snaps := [(0, 4)] } : Graph).nodeDensity 0
    = (2, 1) := by decide

/-- a pair stored three times (not reachable through the API): 3/2 -/
example : ({ Graph.empty false true with
    nodes := [(0, 0), (1, 0)], edges := [⟨0, 1, [(0, 0)]⟩, ⟨1, 0, [(0, 0)]⟩, ⟨0, 1, [(0, 0)]⟩],
    snaps := [(0, 6)] } : Graph).nodeDensity 0 = (3, 2) := by decide

end Dynetx
