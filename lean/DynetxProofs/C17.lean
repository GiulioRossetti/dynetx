import DynetxProofs.Q1
import DynetxProofs.Lemmas.Counts
/-
  C17: the inter-event time distributions (`gapHist`) and the temporal statistics (stream-graph measures).  The model
  returns a ratio as the pair (numerator, denominator): `C17_*_le` bound it by 1, `C17_*_def` give its stream-graph reading.
-/
namespace Dynetx

/-- the model sums by `foldl (· + ·) 0`; the lemmas below are stated for `sumNat`, as the measures are, and go through
    `List.sum` where core has the fact -/
theorem c17_sumNat_eq (l : List Nat) : sumNat l = l.sum := List.sum_eq_foldl_nat.symm

theorem c17_sumNat_nil : sumNat [] = 0 := rfl

theorem c17_sumNat_cons (x : Nat) (l : List Nat) : sumNat (x :: l) = x + sumNat l := by
  rw [c17_sumNat_eq, c17_sumNat_eq, List.sum_cons]

theorem c17_sumNat_append (l m : List Nat) : sumNat (l ++ m) = sumNat l + sumNat m := by
  rw [c17_sumNat_eq, c17_sumNat_eq, c17_sumNat_eq, List.sum_append_nat]

theorem c17_sum_le_sum {α : Type} (l : List α) (f h : α → Nat) (hle : ∀ x ∈ l, f x ≤ h x) :
    sumNat (l.map f) ≤ sumNat (l.map h) := by
  induction l with
  | nil => exact Nat.le_refl _
  | cons x xs ih =>
    rw [List.map_cons, List.map_cons, c17_sumNat_cons, c17_sumNat_cons]
    exact Nat.add_le_add (hle x List.mem_cons_self) (ih fun y hy => hle y (List.mem_cons_of_mem _ hy))

theorem c17_sum_le_mul {α : Type} (l : List α) (f : α → Nat) (N : Nat) (hle : ∀ x ∈ l, f x ≤ N) :
    sumNat (l.map f) ≤ l.length * N :=
  Nat.le_trans (c17_sum_le_sum l f (fun _ => N) hle)
    (by rw [c17_sumNat_eq, List.map_const', List.sum_replicate_nat]; exact Nat.le_refl _)

theorem c17_sum_b2n {α : Type} (l : List α) (p : α → Bool) :
    sumNat (l.map (fun x => b2n (p x))) = (l.filter p).length := by
  induction l with
  | nil => rfl
  | cons x xs ih =>
    rw [List.map_cons, c17_sumNat_cons, ih, List.filter_cons]
    cases p x
    · exact Nat.zero_add _
    · exact Nat.add_comm 1 _

theorem c17_sum_map_add {α : Type} (l : List α) (f k : α → Nat) :
    sumNat (l.map (fun x => f x + k x)) = sumNat (l.map f) + sumNat (l.map k) := by
  rw [c17_sumNat_eq, c17_sumNat_eq, c17_sumNat_eq, sum_map_add]

theorem c17_filter_or_length {α : Type} (l : List α) (p q : α → Bool) :
    (l.filter p).length + (l.filter (fun x => q x && !p x)).length = (l.filter (fun x => p x || q x)).length := by
  rw [← c17_sum_b2n, ← c17_sum_b2n, ← c17_sum_b2n, ← c17_sum_map_add]
  congr 2
  funext x
  cases p x <;> cases q x <;> rfl

theorem c17_b2n_le {a b : Bool} (h : a = true → b = true) : b2n a ≤ b2n b := by
  cases a
  · exact Nat.zero_le _
  · rw [h rfl]; exact Nat.le_refl _

theorem c17_histAdd_mass (h : List (Int × Nat)) (k : Int) :
    sumNat ((histAdd h k).map (·.2)) = sumNat (h.map (·.2)) + 1 := by
  induction h with
  | nil => rfl
  | cons p rest ih =>
    obtain ⟨k', c⟩ := p
    unfold histAdd
    split
    · rw [List.map_cons, List.map_cons, c17_sumNat_cons, c17_sumNat_cons]; exact Nat.add_right_comm ..
    · rw [List.map_cons, List.map_cons, c17_sumNat_cons, c17_sumNat_cons, ih]; rfl

theorem c17_gapHist_cons2 (a b : Int) (rest : List Int) :
    gapHist (a :: b :: rest) = histAdd (gapHist (b :: rest)) (b - a) := rfl

theorem c17_hist_mass (l : List Int) : sumNat ((gapHist l).map (·.2)) = l.length - 1 := by
  induction l with
  | nil => rfl
  | cons a rest ih =>
    cases rest with
    | nil => rfl
    | cons b rest' =>
      rw [c17_gapHist_cons2, c17_histAdd_mass, ih]
      rfl

theorem c17_wsum_histAdd (h : List (Int × Nat)) (k : Int) :
    ((histAdd h k).map (fun p => p.1 * (p.2 : Int))).sum = (h.map (fun p => p.1 * (p.2 : Int))).sum + k := by
  induction h with
  | nil => simp [histAdd]
  | cons p rest ih =>
    obtain ⟨k', c⟩ := p
    unfold histAdd
    split
    · next hk =>
      rw [List.map_cons, List.map_cons, List.sum_cons, List.sum_cons, Int.natCast_add, Int.mul_add, Int.natCast_one,
        Int.mul_one, eq_of_beq hk, Int.add_right_comm]
    · rw [List.map_cons, List.map_cons, List.sum_cons, List.sum_cons, ih, Int.add_assoc]

/-- the sum telescopes; no sortedness needed -/
theorem c17_hist_weighted (l : List Int) :
    ((gapHist l).map (fun p => p.1 * (p.2 : Int))).foldl (· + ·) 0 = (l.getLast?.getD 0) - (l.head?.getD 0) := by
  rw [← List.sum_eq_foldl]
  induction l with
  | nil => rfl
  | cons a rest ih =>
    cases rest with
    | nil => exact (Int.sub_self a).symm
    | cons b rest' =>
      rw [c17_gapHist_cons2, c17_wsum_histAdd, ih, List.getLast?_cons_cons]
      show _ - b + (b - a) = _ - a
      rw [← Int.add_sub_assoc, Int.sub_add_cancel]

/-- number of adjacent pairs `(a, b)` of `l` with `b - a = k` -/
def c17_gapCount (l : List Int) (k : Int) : Nat := (l.zip l.tail).countP (fun p => p.2 - p.1 == k)

theorem c17_hist_ok (l : List Int) : SnapsOk (gapHist l) := by
  induction l with
  | nil => exact snapsOk_empty
  | cons a rest ih =>
    cases rest with
    | nil => exact snapsOk_empty
    | cons b rest' =>
      rw [c17_gapHist_cons2, histAdd_eq]
      exact ⟨bumpBy_nodup _ _ _ ih.nodup, bumpBy_pos Nat.one_pos _ _ ih.pos⟩

theorem c17_hist_count (l : List Int) (k : Int) : lookupSnap (gapHist l) k = c17_gapCount l k := by
  induction l with
  | nil => rfl
  | cons a rest ih =>
    cases rest with
    | nil => rfl
    | cons b rest' =>
      rw [c17_gapHist_cons2, histAdd_eq, lookupSnap_bumpBy, ih]
      unfold c17_gapCount
      simp only [List.tail_cons, List.zip_cons_cons, List.countP_cons, beq_iff_eq, eq_comm (a := k)]

theorem c17_hist_key_iff (l : List Int) (k : Int) :
    k ∈ (gapHist l).map (·.1) ↔ 0 < c17_gapCount l k := by
  rw [← lookupSnap_pos_iff (c17_hist_ok l), c17_hist_count]

theorem c17_hist_keys_nonneg (l : List Int) (hs : l.Pairwise (· ≤ ·)) : ∀ k ∈ (gapHist l).map (·.1), 0 ≤ k := by
  induction l with
  | nil => intro k hk; cases hk
  | cons a rest ih =>
    cases rest with
    | nil => intro k hk; cases hk
    | cons b rest' =>
      intro k hk
      rw [c17_gapHist_cons2, histAdd_eq, bumpBy_keys] at hk
      rw [List.pairwise_cons] at hs
      rcases hk with hk | hk
      · exact ih hs.2 k hk
      · exact hk ▸ Int.sub_nonneg_of_le (hs.1 b List.mem_cons_self)

theorem c17_times_sorted (g : Graph) (p : Ev → Bool) :
    ((g.stream.filter p).map (·.t)).Pairwise (· ≤ ·) :=
  List.pairwise_map.mpr ((List.pairwise_map.mp (stream_chronological g)).filter p)

/-- what is stated of each inter-event distribution `h`: it is `gapHist` of a sorted list `ts` of times -/
structure c17_IsGapDist (h : List (Int × Nat)) (ts : List Int) : Prop where
  eq : h = gapHist ts
  sorted : ts.Pairwise (· ≤ ·)
  mass : sumNat (h.map (·.2)) = ts.length - 1
  weighted : (h.map (fun p => p.1 * (p.2 : Int))).foldl (· + ·) 0 = (ts.getLast?.getD 0) - (ts.head?.getD 0)
  keys_nodup : (h.map (·.1)).Nodup
  keys_nonneg : ∀ k ∈ h.map (·.1), 0 ≤ k
  count : ∀ k, lookupSnap h k = c17_gapCount ts k

theorem c17_isGapDist (ts : List Int) (hs : ts.Pairwise (· ≤ ·)) : c17_IsGapDist (gapHist ts) ts :=
  ⟨rfl, hs, c17_hist_mass ts, c17_hist_weighted ts, (c17_hist_ok ts).nodup, c17_hist_keys_nonneg ts hs,
    c17_hist_count ts⟩

theorem C17_interEvent_global (g : Graph) :
    c17_IsGapDist g.interEventGlobal (g.stream.map (·.t)) ∧ (g.stream.map (·.t)).length = g.events.length :=
  ⟨c17_isGapDist _ (stream_chronological g),
    (List.length_map _).trans (List.length_mergeSort _)⟩

theorem C17_interEvent_node (g : Graph) (u : Node) :
    c17_IsGapDist (g.interEventNode u) ((g.stream.filter (fun e => e.u == u || e.v == u)).map (·.t)) :=
  c17_isGapDist _ (c17_times_sorted g _)

theorem C17_interEvent_out (g : Graph) (u : Node) :
    c17_IsGapDist (g.interEventOut u) ((g.stream.filter (fun e => e.u == u)).map (·.t)) :=
  c17_isGapDist _ (c17_times_sorted g _)

theorem C17_interEvent_in (g : Graph) (u : Node) :
    c17_IsGapDist (g.interEventIn u) ((g.stream.filter (fun e => e.v == u)).map (·.t)) :=
  c17_isGapDist _ (c17_times_sorted g _)

/- The per-interaction variants `inter_*event_time_distribution(u, v)` (not in the text of C17, but part of the
   same code): the gaps between consecutive boundaries of the pair's runs; the boundaries of a canonical timeline
   are sorted. -/

theorem c17p_boundary_sorted (tl : List Span) (h : CanonAsc tl) : (boundaryList tl).Pairwise (· ≤ ·) := by
  have hb : ∀ s ∈ tl, ∀ x ∈ (if s.1 != s.2 then [s.1, s.2] else [s.1]), s.1 ≤ x ∧ x ≤ s.2 := by
    intro s hs x hx
    have := h.all_le s hs
    split at hx
    · rcases List.mem_cons.mp hx with rfl | hx
      · exact ⟨Int.le_refl _, this⟩
      · rw [List.mem_singleton.mp hx]; exact ⟨this, Int.le_refl _⟩
    · rw [List.mem_singleton.mp hx]; exact ⟨Int.le_refl _, this⟩
  unfold boundaryList
  rw [List.pairwise_flatMap]
  constructor
  · intro s hs
    split
    · exact List.pairwise_pair.mpr (h.all_le s hs)
    · exact List.pairwise_singleton _ _
  · refine h.pairwise.imp_of_mem ?_
    intro s r hs hr hsr x hx y hy
    exact Int.le_trans (hb s hs x hx).2 (Int.le_trans
      (Int.le_of_lt (Int.lt_trans (Int.lt_succ _) hsr)) (hb r hr y hy).1)

/-- **per-interaction inter-event distribution** of a canonical timeline: the gap histogram of its sorted boundary list -/
theorem C17_interEvent_pair_of_canon (tl : List Span) (h : CanonAsc tl) :
    c17_IsGapDist (gapHist (boundaryList tl)) (boundaryList tl) :=
  c17_isGapDist _ (c17p_boundary_sorted tl h)

/-- undirected graphs: the gap histogram of the boundaries of the pair's stored timeline, `KeyError` when none is stored.
    On a WF graph that timeline is canonical (`WF.timeline_canonAsc`), so `C17_interEvent_pair_of_canon` applies to it -/
theorem C17_interEvent_pair_undirected (g : Graph) (hd : g.directed = false) (u v : Node) :
    g.interEventPair u v = (match g.timeline u v with
      | some tl => .ok (gapHist (boundaryList tl))
      | none => .error .key) := by
  unfold Graph.interEventPair
  simp only [hd, Bool.false_eq_true, if_false]
  cases g.timeline u v <;> rfl

/-- directed graphs: the arc `v -> u` if it is stored, else `u -> v`, else the empty distribution; the in / out
    variants look at one orientation only -/
theorem C17_interEvent_pair_directed (g : Graph) (hd : g.directed = true) (u v : Node) :
    g.interEventPair u v = .ok (match g.arcTimeline v u with
      | some tl => gapHist (boundaryList tl)
      | none => g.interEventPairOut u v) ∧
    g.interEventPairIn u v = g.interEventPairOut v u := by
  refine ⟨?_, rfl⟩
  unfold Graph.interEventPair Graph.interEventPairOut
  simp only [hd, if_true]
  cases g.arcTimeline v u with
  | some tl => rfl
  | none => cases g.arcTimeline u v <;> rfl

theorem c17_snapKeys_length (g : Graph) : g.snapKeys.length = g.snaps.length := List.length_map _

/-- node pair uniformity: |A ∩ B| ≤ |A ∪ B| as computed, for every graph -/
theorem C17_nodePairUniformity_le (g : Graph) (u v : Node) :
    (g.nodePairUniformity u v).1 ≤ (g.nodePairUniformity u v).2 :=
  Nat.le_trans (List.length_filter_le _ (g.nodePresence u))
    (Nat.le_trans (Nat.le_add_right _ _) (Nat.le_of_eq List.length_append.symm))

theorem c17_hasInteraction_hasNode (g : Graph)
    (hn : ∀ e ∈ g.edges, g.hasNodeFlat e.u = true ∧ g.hasNodeFlat e.v = true)
    {u v : Node} {t : Int} (hi : g.hasInteraction u v (some t) = true) :
    g.hasNode u (some t) = true ∧ g.hasNode v (some t) = true := by
  obtain ⟨hu, hv⟩ := q1_node_of_flat hn hi
  rw [C02_hasNode, C02_hasNode, C02_nodesAt, C02_nodesAt]
  exact ⟨⟨hu, v, Or.inl hi⟩, hv, u, Or.inr hi⟩

/-- pair density ≤ 1 (both graph classes, any mode) when the endpoints of stored pairs are nodes -/
theorem C17_pairDensity_le (g : Graph)
    (hn : ∀ e ∈ g.edges, g.hasNodeFlat e.u = true ∧ g.hasNodeFlat e.v = true) (u v : Node) :
    (g.pairDensity u v).1 ≤ (g.pairDensity u v).2 :=
  c17_sum_le_sum _ _ _ fun t _ => c17_b2n_le fun hi => by simp [c17_hasInteraction_hasNode g hn hi]

/-- density ≤ 1 under the same hypothesis -/
theorem C17_tdensity_le (g : Graph)
    (hn : ∀ e ∈ g.edges, g.hasNodeFlat e.u = true ∧ g.hasNodeFlat e.v = true) :
    g.tdensity.1 ≤ g.tdensity.2 :=
  c17_sum_le_sum _ _ _ fun p _ => C17_pairDensity_le g hn p.1 p.2

theorem c17_instants_length (tl : List Span) (hc : Canon tl) :
    ((instants tl).length : Int) = (tl.map (fun s => s.2 - s.1 + 1)).foldl (· + ·) 0 := by
  rw [← List.sum_eq_foldl]
  induction tl with
  | nil => rfl
  | cons s rest ih =>
    -- the run `s` contributes `irange s.1 s.2`, of length `(s.2 + 1 - s.1).toNat`, which is `s.2 - s.1 + 1` as `s.1 ≤ s.2`
    rw [instants_cons, List.length_append, irange, List.length_map, List.length_range, List.map_cons, List.sum_cons,
      Int.natCast_add, ih hc.tail, Int.toNat_sub_of_le (Int.le_add_one hc.head_le), Int.sub_eq_add_neg,
      Int.sub_eq_add_neg, Int.add_right_comm s.2 1]

/-- edge contribution: in removal mode the numerator of `edge_contribution(u, v)` is the number of snapshot ids at
    which the pair is present (which is also the numerator of `pair_density`), hence in `[0, T]` -/
theorem C17_edgeContribution (g : Graph) (h : WF g) (hr : g.removal = true) (hs : SnapInv g) (u v : Node)
    (n : Int) (d : Nat) (he : g.edgeContribution u v = some (n, d)) :
    d = g.snaps.length ∧
    n = ((g.snapKeys.filter (fun t => g.hasInteraction u v (some t))).length : Int) ∧
    n = ((g.pairDensity u v).1 : Int) ∧ 0 ≤ n ∧ n ≤ (d : Int) := by
  unfold Graph.edgeContribution at he
  cases hf : g.findEdge u v with
  | none => rw [hf] at he; cases he
  | some e =>
    rw [hf] at he
    obtain ⟨rfl, rfl⟩ := Prod.mk.inj (Option.some.inj he)
    have hc := (h.tl e (findEdge_some hf).1).2
    -- the covered instants and the snapshot ids at which the pair is present: two duplicate-free lists
    -- with the same members
    have l0 : (instants e.tl).length = (g.snapKeys.filter (fun t => g.hasInteraction u v (some t))).length :=
      length_eq_of_nodup (instants_nodup hc) (hs.ok.nodup.filter _) fun x => by
        rw [mem_instants, List.mem_filter, ← tlOf_some hf, ← h.hasInteraction_tlOf hr]
        exact ⟨fun hx => ⟨(mem_ids g x).mp ((mem_ids_iff h hr hs x).mpr ⟨u, v, hx⟩), hx⟩, fun hx => hx.2⟩
    have hle := List.length_filter_le (fun t => g.hasInteraction u v (some t)) g.snapKeys
    rw [c17_snapKeys_length] at hle
    rw [← c17_instants_length e.tl hc, l0]
    exact ⟨rfl, rfl, congrArg Nat.cast (c17_sum_b2n _ _).symm, Int.natCast_nonneg _, Int.ofNat_le.mpr hle⟩

/-- coverage = Σ_t |V_t| / (|T| · |V|) -/
theorem C17_coverage_def (g : Graph) :
    g.coverage = (sumNat (g.snapKeys.map (fun t => (g.nodeList.filter (fun n => g.hasNode n (some t))).length)),
                  g.snapKeys.length * g.nodeList.length) := by
  unfold Graph.coverage
  rw [c17_snapKeys_length]
  refine congrArg (·, _) (congrArg sumNat (List.map_congr_left fun t _ => congrArg List.length
    (List.filter_congr fun n hn => ?_)))
  -- `nodes(t)` filters the node list by the degree, `has_node(n, t)` tests membership in the node list first
  show _ = (g.hasNodeFlat n && _)
  rw [(q1_hasNodeFlat_iff g n).mpr hn, Bool.true_and]

/-- coverage ≤ 1, for every graph -/
theorem C17_coverage_le (g : Graph) : g.coverage.1 ≤ g.coverage.2 := by
  rw [C17_coverage_def]
  exact c17_sum_le_mul _ _ _ fun t _ => List.length_filter_le _ _

/-- T_u: the snapshot ids at which `u` is present -/
theorem C17_nodePresence_def (g : Graph) (u : Node) (t : Int) :
    t ∈ g.nodePresence u ↔ t ∈ g.snapKeys ∧ g.hasNode u (some t) = true := by
  unfold Graph.nodePresence; rw [List.mem_filter]

/-- node contribution = |T_u| / |T| -/
theorem C17_nodeContribution_def (g : Graph) (u : Node) :
    g.nodeContribution u = ((g.nodePresence u).length, g.snapKeys.length) := by
  unfold Graph.nodeContribution Graph.nodePresence
  rw [c17_snapKeys_length, c17_sum_b2n]

/-- node contribution ≤ 1, for every graph -/
theorem C17_nodeContribution_le (g : Graph) (u : Node) : (g.nodeContribution u).1 ≤ (g.nodeContribution u).2 := by
  rw [C17_nodeContribution_def]
  exact List.length_filter_le _ _

/-- pair density = |T_uv| / |T_u ∩ T_v| -/
theorem C17_pairDensity_def (g : Graph) (u v : Node) :
    g.pairDensity u v =
      ((g.snapKeys.filter (fun t => g.hasInteraction u v (some t))).length,
       (g.snapKeys.filter (fun t => g.hasNode u (some t) && g.hasNode v (some t))).length) := by
  unfold Graph.pairDensity
  rw [c17_sum_b2n, c17_sum_b2n]

/-- density = Σ_{uv} |T_uv| / Σ_{uv} |T_u ∩ T_v| over the unordered pairs of nodes -/
theorem C17_tdensity_def (g : Graph) :
    g.tdensity = (sumNat ((pairsOf g.nodeList).map (fun p => (g.pairDensity p.1 p.2).1)),
                  sumNat ((pairsOf g.nodeList).map (fun p => (g.pairDensity p.1 p.2).2))) := rfl

theorem c17_contains_filter {l : List Int} (r : Int → Bool) {t : Int} (ht : t ∈ l) :
    (l.filter r).contains t = r t := by
  simp [ht]

theorem c17_presence_inter (g : Graph) (u v : Node) :
    (g.nodePresence u).filter (fun t => (g.nodePresence v).contains t)
      = g.snapKeys.filter (fun t => g.hasNode u (some t) && g.hasNode v (some t)) := by
  unfold Graph.nodePresence
  rw [List.filter_filter]
  exact List.filter_congr fun t ht => by rw [c17_contains_filter _ ht, Bool.and_comm]

theorem c17_presence_union (g : Graph) (u v : Node) :
    (g.nodePresence u ++ (g.nodePresence v).filter (fun t => !(g.nodePresence u).contains t)).length
      = (g.snapKeys.filter (fun t => g.hasNode u (some t) || g.hasNode v (some t))).length := by
  rw [List.length_append, ← c17_filter_or_length]
  unfold Graph.nodePresence
  rw [List.filter_filter]
  congr 2
  exact List.filter_congr fun t ht => by rw [c17_contains_filter _ ht, Bool.and_comm]

/-- `node_pair_uniformity(u, v)` = |T_u ∩ T_v| / |T_u ∪ T_v| counted over the snapshot ids -/
theorem C17_nodePairUniformity_def (g : Graph) (u v : Node) :
    g.nodePairUniformity u v =
      ((g.snapKeys.filter (fun t => g.hasNode u (some t) && g.hasNode v (some t))).length,
       (g.snapKeys.filter (fun t => g.hasNode u (some t) || g.hasNode v (some t))).length) := by
  unfold Graph.nodePairUniformity
  simp only []
  rw [c17_presence_inter, c17_presence_union]

/-- uniformity = Σ_{uv} |T_u ∩ T_v| / Σ_{uv} |T_u ∪ T_v| -/
theorem C17_uniformity_def (g : Graph) :
    g.uniformity = (sumNat ((pairsOf g.nodeList).map (fun p => (g.nodePairUniformity p.1 p.2).1)),
                    sumNat ((pairsOf g.nodeList).map (fun p => (g.nodePairUniformity p.1 p.2).2))) := by
  simp only [C17_nodePairUniformity_def, ← c17_sum_b2n]
  rfl

/-- uniformity ≤ 1, for every graph -/
theorem C17_uniformity_le (g : Graph) : g.uniformity.1 ≤ g.uniformity.2 := by
  rw [C17_uniformity_def]
  exact c17_sum_le_sum _ _ _ fun p _ => C17_nodePairUniformity_le g p.1 p.2

/-- the graph of the repository's test of these measures -/
def c17_testGraph : Graph :=
  let g := Graph.empty false true
  let g := (g.addInteraction 0 1 (some 0) none).1
  let g := (g.addInteraction 0 2 (some 0) none).1
  let g := (g.addInteraction 0 1 (some 1) none).1
  let g := (g.addInteraction 0 2 (some 2) none).1
  (g.addInteraction 0 3 (some 2) none).1

example : c17_testGraph.coverage = (8, 12) := by decide
example : c17_testGraph.nodeContribution 1 = (2, 3) := by decide

/-- the hypothesis `hn` of `C17_pairDensity_le` / `C17_tdensity_le` cannot be dropped for an arbitrary
    `Graph` value: a stored pair whose endpoints are not in `nodes` gives 1/0 -/
example : ({ Graph.empty false true with edges := [⟨0, 1, [(0, 0)]⟩], snaps := [(0, 2)] } : Graph).pairDensity 0 1
    = (1, 0) := by decide

end Dynetx
