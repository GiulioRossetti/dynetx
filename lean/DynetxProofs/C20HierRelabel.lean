import DynetxProofs.C20Hier
/-
  C20, clause "scores are invariant under renaming label values", for the full-featured model: the values of every label
  are renamed by an injective map in the node attributes (static values and the values inside the time-varying
  dictionaries) and in the keys of the label's hierarchy.
-/
namespace Dynetx

def LabelVal.mapVal (f : Nat → Nat) : LabelVal → LabelVal
  | .static v => .static (f v)
  | .dyn tab => .dyn (tab.map (fun e => (e.1, f e.2)))

def Hierarchy.mapKeys (f : Nat → Nat) (h : Hierarchy) : Hierarchy := h.map (fun e => (f e.1, e.2))

theorem at?_mapVal (f : Nat → Nat) (lv : LabelVal) (t : Int) : (lv.mapVal f).at? t = (lv.at? t).map f := by
  cases lv with
  | static v => rfl
  | dyn tab => simp only [LabelVal.mapVal, LabelVal.at?, List.find?_map, Option.map_map]; rfl

theorem find?_mapKeys {f : Nat → Nat} (hf : Function.Injective f) (h : Hierarchy) (v : Nat) :
    (Hierarchy.mapKeys f h).find? (fun e => e.1 == f v) = (h.find? (fun e => e.1 == v)).map (fun e => (f e.1, e.2)) := by
  simp only [Hierarchy.mapKeys, List.find?_map, Function.comp_def, beq_of_inj hf]

theorem distanceH_relabel {f : Nat → Nat} (hf : Function.Injective f) (h : Option Hierarchy) (a b : Nat) :
    distanceH (h.map (Hierarchy.mapKeys f)) (f a) (f b) = distanceH h a b := by
  cases h with
  | none => rfl
  | some tab =>
    unfold distanceH
    dsimp only [Option.map_some]
    rw [find?_mapKeys hf, find?_mapKeys hf, show (Hierarchy.mapKeys f tab).length = tab.length from List.length_map _]
    cases tab.find? (fun e => e.1 == a) <;> cases tab.find? (fun e => e.1 == b) <;> rfl

theorem termH_relabel (g : Graph) (lab : Node → LabelVal) (h : Option Hierarchy) {f : Nat → Nat}
    (hf : Function.Injective f) (au : Nat) (td : List (Node × Nat)) (v : Node) :
    termH g (fun n => (lab n).mapVal f) (h.map (Hierarchy.mapKeys f)) (f au) td v = termH g lab h au td v := by
  unfold termH
  generalize ((((td.find? (fun e => e.1 == v)).map (·.2)).getD 0 : Nat) : Int) = t
  -- layer by layer, so that no step simplifies the whole body
  dsimp only
  rw [at?_mapVal]
  cases (lab v).at? t with
  | none => rfl
  | some av =>
    dsimp only [Option.map_some]
    rw [beq_of_inj hf, distanceH_relabel hf]
    cases (if au == av then (Except.ok 1 : Except Err Rat) else distanceH h au av) with
    | error e => rfl
    | ok s =>
      rw [allOk_map_hom (g.neighbors v (some t)) (fun x => valueOrKeyError ((lab x).at? t)) _ f
        (fun x _ => by rw [at?_mapVal]; cases (lab x).at? t <;> rfl)]
      cases allOk ((g.neighbors v (some t)).map fun x => valueOrKeyError ((lab x).at? t)) with
      | error e => rfl
      | ok axs => simp only [Except.map, List.filter_map, List.length_map, Function.comp_def, beq_of_inj hf]

theorem labelFrequencyH_relabel (g : Graph) (lab : Node → LabelVal) (h : Option Hierarchy) {f : Nat → Nat}
    (hf : Function.Injective f) (u : Node) (nodes : List Node) (td : List (Node × Nat)) (start : Int) :
    labelFrequencyH g (fun n => (lab n).mapVal f) (h.map (Hierarchy.mapKeys f)) u nodes td start
      = labelFrequencyH g lab h u nodes td start := by
  unfold labelFrequencyH
  rw [at?_mapVal]
  cases (lab u).at? start with
  | none => rfl
  | some au => dsimp only [Option.map_some]; rw [funext (termH_relabel g lab h hf au td)]

/-- one map `f l` per label `l` -/
def relabelTab (f : Nat → Nat → Nat) (tab : LabelTableH) : LabelTableH := fun l n => (tab l n).mapVal (f l)

def relabelHier (f : Nat → Nat → Nat) (hier : Hierarchies) : Hierarchies := fun l => (hier l).map (Hierarchy.mapKeys (f l))

/-- the node score reads the labels through `profileFrequencyH g tab hier` alone -/
theorem nodeScoreH_relabel (g : Graph) (tab : LabelTableH) (hier : Hierarchies) (f : Nat → Nat → Nat)
    (hf : ∀ l, Function.Injective (f l)) :
    nodeScoreH g (relabelTab f tab) (relabelHier f hier) = nodeScoreH g tab hier := by
  have : profileFrequencyH g (relabelTab f tab) (relabelHier f hier) = profileFrequencyH g tab hier := by
    funext pr u nodes td start
    unfold profileFrequencyH relabelTab relabelHier
    simp only [labelFrequencyH_relabel _ _ _ (hf _)]
  unfold nodeScoreH
  rw [this]

/-- **C20 (renaming label values; time-varying labels and hierarchies).**  Same scores, same `KeyError`s. -/
theorem C20H_relabel (dg : Graph) (tab : LabelTableH) (hier : Hierarchies) (f : Nat → Nat → Nat)
    (hf : ∀ l, Function.Injective (f l)) (start delta : Int) (alphas labels : List Nat) (profileSize ptype : Nat) :
    dg.deltaConformityH (relabelTab f tab) (relabelHier f hier) start delta alphas labels profileSize ptype
      = dg.deltaConformityH tab hier start delta alphas labels profileSize ptype := by
  simp only [deltaConformityH_eq, nodeScoreH_relabel _ tab hier f hf]

end Dynetx
