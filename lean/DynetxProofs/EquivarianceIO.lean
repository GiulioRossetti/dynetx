import DynetxProofs.EquivarianceHistory
namespace Dynetx

section
variable {ρ : Node → Node} (hρ : Function.Injective ρ)
include hρ

theorem rn_genSnapshots (g : Graph) :
    (g.rename ρ).genSnapshots = g.genSnapshots.map (fun r => (ρ r.1, ρ r.2.1, r.2.2)) := by
  simp only [Graph.genSnapshots, rn_sliceData hρ, List.flatMap_map, List.map_flatMap, List.map_map]
  rfl

theorem rn_parseSnapshots (d : Bool) (rows : List (Node × Node × Int × Option Int)) :
    parseSnapshots d (rnCalls ρ rows) = (((parseSnapshots d rows).1).rename ρ, (parseSnapshots d rows).2) := by
  unfold parseSnapshots
  have := rn_addMany hρ rows (Graph.empty d true)
  rwa [rn_empty] at this

theorem rn_replayRow (g : Graph) (r : Ev) :
    (g.rename ρ).replayRow (r.rename ρ) = (((g.replayRow r).1).rename ρ, (g.replayRow r).2) := by
  fun_cases Graph.replayRow g r <;>
    simp only [Graph.replayRow, Ev.rename_u, Ev.rename_v, Ev.rename_t, Ev.rename_plus, rn_findEdge hρ, Option.map_some,
      Option.map_none, Edge.rename_tl, *, Bool.false_eq_true, if_true, if_false, rn_addInteraction hρ]

theorem rn_replayRows (rows : List Ev) (g : Graph) :
    (g.rename ρ).replayRows (rows.map (Ev.rename ρ)) = (((g.replayRows rows).1).rename ρ, (g.replayRows rows).2) := by
  rw [replayRows_eq, replayRows_eq]
  exact foldExit_hom (Graph.rename ρ) _ (rn_replayRow hρ) g rows

theorem rn_parseInteractions (d : Bool) (rows : List Ev) :
    parseInteractions d (rows.map (Ev.rename ρ)) =
      (((parseInteractions d rows).1).rename ρ, (parseInteractions d rows).2) := by
  unfold parseInteractions
  have := rn_replayRows hρ rows (Graph.empty d true)
  rwa [rn_empty] at this

omit hρ in
/-- the empty graph on the node set of `g`, from which `to_directed` / `to_undirected` rebuild -/
theorem rn_bareNodes (g : Graph) (d : Bool) :
    ({ Graph.empty d true with nodes := (g.rename ρ).nodes.map (fun (p : Node × Nat) => (p.1, 0)) } : Graph) =
      ({ Graph.empty d true with nodes := g.nodes.map (fun (p : Node × Nat) => (p.1, 0)) } : Graph).rename ρ := by
  simp only [Graph.rename, Graph.empty, rn]

omit hρ in
/-- the calls with which `to_directed` / `to_undirected` rebuild: one per run `[a, b]` that `runs` reads off a stored pair -/
theorem rn_spanCalls {β : Type} (runs : β → List Span) (l : List (Node × Node × β)) :
    (l.map (fun d => (ρ d.1, ρ d.2.1, d.2.2))).flatMap
        (fun (u, v, x) => (runs x).map (fun (a, b) => (u, v, a, some (b + 1)))) =
      rnCalls ρ (l.flatMap (fun (u, v, x) => (runs x).map (fun (a, b) => (u, v, a, some (b + 1))))) := by
  simp only [rnCalls, rn]

theorem rn_toDirected (g : Graph) : (g.rename ρ).toDirected = (g.toDirected).map (Graph.rename ρ) := by
  unfold Graph.toDirected
  simp only [rn_interactionsData hρ, rn_bareNodes, rn_spanCalls (fun tl => tl), rn_addMany hρ]
  cases ({ Graph.empty true true with nodes := g.nodes.map (fun (p : Node × Nat) => (p.1, 0)) } : Graph).addMany _ with
  | mk h' err => cases err <;> rfl

omit hρ in
theorem rn_nodeLink_nodes (g : Graph) : (g.rename ρ).nodeLinkData.nodes = g.nodes.map (fun p => (ρ p.1, p.2)) := rfl

theorem rn_nodeLinkData (g : Graph) :
    (g.rename ρ).nodeLinkData =
      { directed := some g.directed, gattr := g.gattr, nodes := g.nodes.map (fun p => (ρ p.1, p.2)),
        links := g.genSnapshots.map (fun r => (ρ r.1, ρ r.2.1, r.2.2)) } := by
  unfold Graph.nodeLinkData
  rw [rn_genSnapshots hρ]
  rfl

def rnMerged (ρ : Node → Node) (m : List (Node × Node × List Int)) : List (Node × Node × List Int) :=
  m.map (fun x => (ρ x.1, ρ x.2.1, x.2.2))

theorem rn_mergedGo (g : Graph) (recip : Bool) (l : List (Node × Node × List Span)) (acc : List (Node × Node × List Int)) :
    mergedGo (g.rename ρ) recip (l.map (fun x => (ρ x.1, ρ x.2.1, x.2.2))) (rnMerged ρ acc) =
      rnMerged ρ (mergedGo g recip l acc) := by
  fun_induction mergedGo g recip l acc with
  | case1 acc => rfl
  | case2 acc u v tl rest h ih =>
    simp only [List.map_cons, mergedGo, rnMerged, List.any_map, Function.comp_def, rn_beq hρ, h, if_true] at ih ⊢
    exact ih
  | case3 acc u v tl rest h fw bw s ih =>
    simp only [List.map_cons, mergedGo, rnMerged, List.any_map, Function.comp_def, rn_beq hρ, h, Bool.false_eq_true,
      if_false, rn_timeline hρ, List.map_append, List.map_nil] at ih ⊢
    exact ih

theorem rn_toUndirected (g : Graph) (recip : Bool) :
    (g.rename ρ).toUndirected recip = (g.toUndirected recip).map (Graph.rename ρ) := by
  have hm := rn_mergedGo hρ g recip g.outInteractionsData []
  simp only [rnMerged, List.map_nil] at hm
  unfold Graph.toUndirected
  simp only [rn_outInteractionsData hρ, hm, rn_bareNodes, rn_spanCalls runsOf, rn_addMany hρ]
  cases ({ Graph.empty false true with nodes := g.nodes.map (fun (p : Node × Nat) => (p.1, 0)) } : Graph).addMany _ with
  | mk h' err => cases err <;> rfl

end
end Dynetx
