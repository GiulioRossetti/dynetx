import DynetxProofs.Lemmas.Step
namespace Dynetx

structure WF (g : Graph) : Prop where
  tl : ∀ e ∈ g.edges, e.tl ≠ [] ∧ Canon e.tl
  keys : g.edges.Pairwise (fun e f => sameKey g.directed e.u e.v f.u f.v = false)

theorem WF.empty (d r : Bool) : WF (Graph.empty d r) :=
  ⟨(by intro e he; cases he), List.Pairwise.nil⟩

theorem hasInteraction_of_no_edges {g : Graph} (he : g.edges = []) (a b : Node) (t : Option Int) :
    g.hasInteraction a b t = false := by
  simp [Graph.hasInteraction, Graph.findEdge, he]

theorem empty_hasInteraction (d r : Bool) (a b : Node) (t : Option Int) :
    (Graph.empty d r).hasInteraction a b t = false :=
  hasInteraction_of_no_edges rfl a b t

theorem edge_unique {d : Bool} {l : List Edge}
    (h : l.Pairwise (fun e f => sameKey d e.u e.v f.u f.v = false)) {e f : Edge} (he : e ∈ l) (hf : f ∈ l)
    {a b : Node} (hea : sameKey d e.u e.v a b = true) (hfa : sameKey d f.u f.v a b = true) : e = f := by
  rcases pairwise_mem_cases h he hf with rfl | h1 | h1
  · rfl
  · exact absurd (sameKey_trans hea (sameKey_symm_of hfa)) (Bool.eq_false_iff.mp h1)
  · exact absurd (sameKey_trans hfa (sameKey_symm_of hea)) (Bool.eq_false_iff.mp h1)

theorem findEdge_of_keys {g : Graph} (h : q1_Keys g) {e : Edge} (he : e ∈ g.edges) {a b : Node}
    (hk : sameKey g.directed e.u e.v a b = true) : g.findEdge a b = some e := by
  cases hf : g.findEdge a b with
  | none => exact (Bool.eq_false_iff.mp (findEdge_none hf e he) hk).elim
  | some f => rw [edge_unique h he (findEdge_some hf).1 hk (findEdge_some hf).2]

theorem WF.findEdge_of_mem {g : Graph} (h : WF g) {e : Edge} (he : e ∈ g.edges) {a b : Node}
    (hk : sameKey g.directed e.u e.v a b = true) : g.findEdge a b = some e :=
  findEdge_of_keys h.keys he hk

theorem hasInteraction_flat_iff (g : Graph) (a b : Node) :
    g.hasInteraction a b none = true ↔ ∃ e ∈ g.edges, sameKey g.directed e.u e.v a b = true := by
  unfold Graph.hasInteraction
  cases hf : g.findEdge a b with
  | none =>
    exact iff_of_false Bool.false_ne_true fun ⟨e, hem, hek⟩ => Bool.eq_false_iff.mp (findEdge_none hf e hem) hek
  | some e => exact iff_of_true rfl ⟨e, findEdge_some hf⟩

theorem findEdge_congr (g : Graph) {u v x y : Node} (h : sameKey g.directed u v x y = true) :
    g.findEdge u v = g.findEdge x y := by
  unfold Graph.findEdge
  congr 1
  funext e
  exact sameKey_congr_right h e.u e.v

theorem hasInteraction_key {g : Graph} {u v a b : Node} (hk : sameKey g.directed u v a b = true) (t : Option Int) :
    g.hasInteraction u v t = g.hasInteraction a b t := by
  unfold Graph.hasInteraction; rw [findEdge_congr g hk]

def Graph.tlOf (g : Graph) (x y : Node) : List Span := ((g.findEdge x y).map (·.tl)).getD []

theorem tlOf_some {g : Graph} {u v : Node} {ed : Edge} (hf : g.findEdge u v = some ed) : g.tlOf u v = ed.tl := by
  simp [Graph.tlOf, hf]

theorem tlOf_none {g : Graph} {u v : Node} (hf : g.findEdge u v = none) : g.tlOf u v = [] := by
  simp [Graph.tlOf, hf]

theorem tlOf_congr (g : Graph) {u v x y : Node} (h : sameKey g.directed u v x y = true) :
    g.tlOf u v = g.tlOf x y := by
  unfold Graph.tlOf; rw [findEdge_congr g h]

theorem findEdge_append {g g' : Graph} {u v : Node} {tl : List Span} (hd : g'.directed = g.directed)
    (he : g'.edges = g.edges ++ [({ u := u, v := v, tl := tl } : Edge)]) (x y : Node) :
    g'.findEdge x y =
      (g.findEdge x y).or (if sameKey g.directed u v x y then some { u := u, v := v, tl := tl } else none) := by
  unfold Graph.findEdge
  rw [he, hd, List.find?_append, List.find?_singleton]

theorem tlOf_append {g g' : Graph} {u v : Node} {tl : List Span} (hd : g'.directed = g.directed)
    (he : g'.edges = g.edges ++ [({ u := u, v := v, tl := tl } : Edge)]) (hf : g.findEdge u v = none)
    (x y : Node) : g'.tlOf x y = if sameKey g.directed u v x y then tl else g.tlOf x y := by
  unfold Graph.tlOf
  rw [findEdge_append hd he]
  by_cases hk : sameKey g.directed u v x y = true
  · rw [if_pos hk, if_pos hk, ← findEdge_congr g hk, hf]; rfl
  · rw [if_neg hk, if_neg hk, Option.or_none]

theorem mem_mapTl {g : Graph} {u v : Node} {tl : List Span} {e' : Edge} :
    e' ∈ mapTl g u v tl ↔
      ∃ e ∈ g.edges, e' = if sameKey g.directed e.u e.v u v then { e with tl := tl } else e := by
  unfold mapTl
  rw [List.mem_map]
  constructor
  · rintro ⟨e, he, rfl⟩; exact ⟨e, he, rfl⟩
  · rintro ⟨e, he, rfl⟩; exact ⟨e, he, rfl⟩

theorem mem_mapTl_proj {g : Graph} {u v : Node} {tl : List Span} {e' : Edge} :
    e' ∈ mapTl g u v tl ↔
      ∃ e ∈ g.edges, e'.u = e.u ∧ e'.v = e.v ∧ e'.tl = if sameKey g.directed e.u e.v u v then tl else e.tl := by
  rw [mem_mapTl]
  constructor
  · rintro ⟨e, he, rfl⟩
    exact ⟨e, he, (apply_ite Edge.u ..).trans (ite_self _), (apply_ite Edge.v ..).trans (ite_self _), apply_ite Edge.tl ..⟩
  · rintro ⟨e, he, hu, hv, ht⟩
    refine ⟨e, he, ?_⟩
    obtain ⟨u', v', tl'⟩ := e'
    simp only at hu hv ht
    subst hu hv ht
    cases sameKey g.directed e.u e.v u v <;> rfl

theorem forall_mapTl {g : Graph} {u v : Node} {tl : List Span} {P : Edge → Prop} (h : ∀ e ∈ g.edges, P e)
    (htl : ∀ e ∈ g.edges, P { e with tl := tl }) : ∀ e ∈ mapTl g u v tl, P e := by
  refine List.forall_mem_map.mpr fun e he => ?_
  cases sameKey g.directed e.u e.v u v
  · exact h e he
  · exact htl e he

theorem mapTl_self {g : Graph} (h : q1_Keys g) {u v : Node} {ed : Edge} (hf : g.findEdge u v = some ed) :
    mapTl g u v ed.tl = g.edges := by
  obtain ⟨hedm, hedk⟩ := findEdge_some hf
  refine (List.map_congr_left fun e' he' => ?_).trans (List.map_id g.edges)
  cases hk : sameKey g.directed e'.u e'.v u v
  · rfl
  · rw [← edge_unique h he' hedm hk hedk]; rfl

theorem findEdge_mapTl {g g' : Graph} {u v : Node} {tl' : List Span} (hd : g'.directed = g.directed)
    (he : g'.edges = mapTl g u v tl') (x y : Node) :
    g'.findEdge x y =
      (g.findEdge x y).map fun e => if sameKey g.directed e.u e.v u v then { e with tl := tl' } else e := by
  unfold Graph.findEdge
  rw [he, hd, mapTl, List.find?_map]
  refine congrArg (Option.map _) (congrArg (List.find? · _) (funext fun e => ?_))
  simp only [Function.comp, apply_ite Edge.u, apply_ite Edge.v, ite_self]

theorem tlOf_mapTl {g g' : Graph} {u v : Node} {ed : Edge} {tl' : List Span} (hd : g'.directed = g.directed)
    (he : g'.edges = mapTl g u v tl') (hf : g.findEdge u v = some ed) (x y : Node) :
    g'.tlOf x y = if sameKey g.directed u v x y then tl' else g.tlOf x y := by
  unfold Graph.tlOf
  rw [findEdge_mapTl hd he]
  by_cases hk : sameKey g.directed u v x y = true
  · rw [if_pos hk, ← findEdge_congr g hk, hf]
    show (if _ then _ else _ : Edge).tl = tl'
    rw [if_pos (findEdge_some hf).2]
  · rw [if_neg hk]
    cases hf' : g.findEdge x y with
    | none => rfl
    | some e =>
      show (if _ then _ else _ : Edge).tl = e.tl
      rw [if_neg fun h1 => hk (sameKey_trans (sameKey_symm_of h1) (findEdge_some hf').2)]

theorem WF.mem_tlOf {g : Graph} (h : WF g) (x y : Node) (s : Span) :
    (∃ ed ∈ g.edges, sameKey g.directed ed.u ed.v x y = true ∧ s ∈ ed.tl) ↔ s ∈ g.tlOf x y := by
  unfold Graph.tlOf
  constructor
  · rintro ⟨ed, hm, hk, hs⟩
    rw [h.findEdge_of_mem hm hk]; exact hs
  · intro hs
    cases hf : g.findEdge x y with
    | none => rw [hf] at hs; cases hs
    | some ed => rw [hf] at hs; exact ⟨ed, (findEdge_some hf).1, (findEdge_some hf).2, hs⟩

theorem WF.canon_tlOf {g : Graph} (h : WF g) (x y : Node) : Canon (g.tlOf x y) := by
  unfold Graph.tlOf
  cases hf : g.findEdge x y with
  | none => trivial
  | some ed => exact (h.tl ed (findEdge_some hf).1).2

theorem WF.hasInteraction_tlOf {g : Graph} (h : WF g) (hr : g.removal = true) (a b : Node) (x : Int) :
    g.hasInteraction a b (some x) = true ↔ memTl (g.tlOf a b) x := by
  unfold Graph.hasInteraction Graph.tlOf
  cases hf : g.findEdge a b with
  | none => simp [memTl_nil]
  | some e => exact presenceTest_iff g hr e.tl (h.tl e (findEdge_some hf).1).2 x

theorem WF.hasInteraction_iff {g : Graph} (h : WF g) (hr : g.removal = true) (a b : Node) (x : Int) :
    g.hasInteraction a b (some x) = true ↔
      ∃ e ∈ g.edges, sameKey g.directed e.u e.v a b = true ∧ memTl e.tl x := by
  rw [h.hasInteraction_tlOf hr]
  unfold memTl
  constructor
  · rintro ⟨s, hs, hx⟩
    obtain ⟨e, he, hk, hs'⟩ := (h.mem_tlOf a b s).mpr hs
    exact ⟨e, he, hk, s, hs', hx⟩
  · rintro ⟨e, he, hk, s, hs, hx⟩
    exact ⟨s, (h.mem_tlOf a b s).mp ⟨e, he, hk, hs⟩, hx⟩

theorem WF.flat_iff_exists {g : Graph} (h : WF g) (hr : g.removal = true) (a b : Node) :
    g.hasInteraction a b none = true ↔ ∃ x, g.hasInteraction a b (some x) = true := by
  rw [hasInteraction_flat_iff]
  constructor
  · rintro ⟨e, hem, hk⟩
    obtain ⟨hne, hc⟩ := h.tl e hem
    obtain ⟨s, rest, htl⟩ := List.exists_cons_of_ne_nil hne
    refine ⟨s.1, (h.hasInteraction_iff hr a b s.1).mpr ⟨e, hem, hk, ?_⟩⟩
    rw [htl] at hc ⊢
    exact ⟨s, List.mem_cons_self, Int.le_refl _, hc.head_le⟩
  · rintro ⟨x, hx⟩
    obtain ⟨e, hem, hk, _⟩ := (h.hasInteraction_iff hr a b x).mp hx
    exact ⟨e, hem, hk⟩

theorem WF.head_start {g : Graph} (h : WF g) (hr : g.removal = true) {u v : Node} {ed : Edge} {a b : Int}
    {rest : List Span} (hf : g.findEdge u v = some ed) (htl : ed.tl = (a, b) :: rest) :
    g.hasInteraction u v (some a) = true ∧ g.hasInteraction u v (some (a - 1)) = false := by
  have hc := h.canon_tlOf u v
  rw [← Bool.not_eq_true, h.hasInteraction_tlOf hr, h.hasInteraction_tlOf hr, ← hc.start_iff]
  rw [tlOf_some hf, htl]
  exact ⟨(a, b), List.mem_cons_self, rfl⟩

theorem WF.head_end {g : Graph} (h : WF g) (hr : g.removal = true) {u v : Node} {ed : Edge} {a b : Int}
    {rest : List Span} (hf : g.findEdge u v = some ed) (htl : ed.tl = (a, b) :: rest) :
    g.hasInteraction u v (some b) = true ∧ ∀ y, g.hasInteraction u v (some y) = true → y ≤ b := by
  have hc := h.canon_tlOf u v
  simp only [h.hasInteraction_tlOf hr]
  rw [tlOf_some hf, htl] at hc ⊢
  exact ⟨(hc.end_succ List.mem_cons_self).1, fun y hy => hc.le_head_end hy⟩

theorem timeline_getD (g : Graph) (u v : Node) : (g.timeline u v).getD [] = (g.tlOf u v).reverse := by
  unfold Graph.timeline Graph.tlOf
  cases g.findEdge u v <;> rfl

theorem WF.timeline_canonAsc {g : Graph} (h : WF g) (u v : Node) : CanonAsc ((g.timeline u v).getD []) := by
  rw [timeline_getD]; exact (h.canon_tlOf u v).reverse

theorem WF.memTl_timeline {g : Graph} (h : WF g) (hr : g.removal = true) (u v : Node) (x : Int) :
    memTl ((g.timeline u v).getD []) x ↔ g.hasInteraction u v (some x) = true := by
  rw [timeline_getD, memTl_reverse, h.hasInteraction_tlOf hr]

/-- C03 for any well-formed removal-enabled graph -/
theorem WF.timeline_some {g : Graph} (h : WF g) (hr : g.removal = true) {u v : Node} {tl : List Span}
    (ht : g.timeline u v = some tl) :
    CanonAsc tl ∧ ∀ x, memTl tl x ↔ g.hasInteraction u v (some x) = true := by
  have h1 := h.timeline_canonAsc u v
  have h2 := h.memTl_timeline hr u v
  rw [ht] at h1 h2
  exact ⟨h1, h2⟩

end Dynetx
