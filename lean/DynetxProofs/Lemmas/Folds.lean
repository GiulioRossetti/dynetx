import DynetxProofs.Lemmas.Step
import DynetxProofs.Lemmas.FoldExit
import DynetxProofs.Spec
/-
  The folds over add_interaction: what every single call preserves, the fold preserves (`*_induction`).  The hypothesis on
  a call may use that the call belongs to the list; a relation to the start graph is a predicate with the start graph fixed.
-/
namespace Dynetx

theorem addMany_induction {P : Graph → Prop} (calls : List Call4) {g : Graph} (h0 : P g)
    (hstep : ∀ g, P g → ∀ c ∈ calls, P (g.addInteraction c.1 c.2.1 (some c.2.2.1) c.2.2.2).1) :
    P (g.addMany calls).1 := by
  rw [addMany_eq]; exact foldExit_inv_mem calls h0 hstep

theorem addFromGo_induction {P : Graph → Prop} (es : List (Node × Node)) (t e : Option Int) {g : Graph}
    (h0 : P g) (hstep : ∀ g, P g → ∀ p ∈ es, P (g.addInteraction p.1 p.2 t e).1) :
    P (g.addFromGo es t e).1 := by
  rw [addFromGo_eq]; exact foldExit_inv_mem es h0 hstep

theorem step_induction {P : Graph → Prop} (op : Op) {g : Graph} (h0 : P g)
    (hstep : ∀ g, P g → ∀ p ∈ op.pairs, P (g.addInteraction p.1 p.2 op.t op.e).1) : P (g.step op).1 := by
  obtain ⟨pairs, _ | t0, e⟩ := op
  · exact h0
  · exact addFromGo_induction _ _ _ h0 hstep

theorem step_add (g : Graph) (u v : Node) (t e : Option Int) :
    g.step (Op.add u v t e) = g.addInteraction u v t e := by
  cases t with
  | none => rfl
  | some t0 =>
    show g.addFromGo [(u, v)] (some t0) e = _
    unfold Graph.addFromGo
    rcases g.addInteraction u v (some t0) e with ⟨g', _ | err⟩ <;> rfl

theorem run_induction {P : Graph → Prop} (ops : List Op) {g : Graph} (h0 : P g)
    (hstep : ∀ g, P g → ∀ op ∈ ops, ∀ p ∈ op.pairs, P (g.addInteraction p.1 p.2 op.t op.e).1) :
    P (g.run ops).1 := by
  induction ops generalizing g with
  | nil => exact h0
  | cons op rest ih =>
    exact ih (step_induction op h0 fun g h => hstep g h op List.mem_cons_self)
      fun g h o ho => hstep g h o (List.mem_cons_of_mem _ ho)

theorem replayRow_plus {g : Graph} {r : Ev} (hp : r.plus = true) :
    g.replayRow r = g.addInteraction r.u r.v (some r.t) none := by
  simp [Graph.replayRow, hp]

theorem replayRow_minus_none {g : Graph} {r : Ev} (hp : r.plus = false) (hf : g.findEdge r.u r.v = none) :
    g.replayRow r = (g, some .key) := by
  simp [Graph.replayRow, hp, hf]

theorem replayRow_minus_some {g : Graph} {r : Ev} (hp : r.plus = false) {ed : Edge} {a b : Int}
    {rest : List Span} (hf : g.findEdge r.u r.v = some ed) (htl : ed.tl = (a, b) :: rest) :
    g.replayRow r = if b < r.t then g.addInteraction r.u r.v (some b) (some r.t) else (g, none) := by
  simp [Graph.replayRow, hp, hf, htl]

/-- one row of `parse_interactions` is at most one `add_interaction` on the pair of the row -/
theorem replayRow_induction {P : Graph → Prop} (r : Ev) {g : Graph} (h0 : P g)
    (hstep : ∀ t e, P (g.addInteraction r.u r.v t e).1) : P (g.replayRow r).1 := by
  fun_cases Graph.replayRow g r
  · exact hstep _ _  -- a '+' row
  · exact h0         -- a '-' row of a pair that is not stored
  · exact h0         -- a stored pair without timeline
  · exact hstep _ _  -- a '-' row after the end of the latest run
  · exact h0         -- a '-' row at or before it

theorem replayRows_induction {P : Graph → Prop} (rows : List Ev) {g : Graph} (h0 : P g)
    (hstep : ∀ g, P g → ∀ r ∈ rows, ∀ t e, P (g.addInteraction r.u r.v t e).1) :
    P (g.replayRows rows).1 := by
  rw [replayRows_eq]
  exact foldExit_inv_mem rows h0 fun g h r hr => replayRow_induction r h (hstep g h r hr)

theorem replayRows_append {g H : Graph} {l1 : List Ev} (l2 : List Ev) (h : g.replayRows l1 = (H, none)) :
    g.replayRows (l1 ++ l2) = H.replayRows l2 := by
  rw [replayRows_eq] at h ⊢; rw [replayRows_eq]; exact foldExit_append l2 h

theorem replayRows_sim {I : Graph → List Ev → Prop} {S : List Ev}
    (hstep : ∀ g pre r post, S = pre ++ r :: post → I g pre → ∃ H, g.replayRow r = (H, none) ∧ I H (pre ++ [r])) :
    ∀ post pre g, S = pre ++ post → I g pre → ∃ H, g.replayRows post = (H, none) ∧ I H S := by
  simpa only [replayRows_eq] using foldExit_sim hstep

section constant
variable (g : Graph)

@[simp] theorem addMany_directed (calls : List Call4) : (g.addMany calls).1.directed = g.directed :=
  addMany_induction (P := fun g' => g'.directed = g.directed) calls rfl fun _ h _ _ => by simp [h]
@[simp] theorem addMany_gattr (calls : List Call4) : (g.addMany calls).1.gattr = g.gattr :=
  addMany_induction (P := fun g' => g'.gattr = g.gattr) calls rfl fun _ h _ _ => by simp [h]

@[simp] theorem run_directed (ops : List Op) : (g.run ops).1.directed = g.directed :=
  run_induction (P := fun g' => g'.directed = g.directed) ops rfl fun _ h _ _ _ _ => by simp [h]
@[simp] theorem run_removal (ops : List Op) : (g.run ops).1.removal = g.removal :=
  run_induction (P := fun g' => g'.removal = g.removal) ops rfl fun _ h _ _ _ _ => by simp [h]

end constant

theorem run_keys {g : Graph} (h : q1_Keys g) (ops : List Op) : q1_Keys (g.run ops).1 :=
  run_induction ops h fun _ h _ _ _ _ => addInteraction_keys h ..

end Dynetx
