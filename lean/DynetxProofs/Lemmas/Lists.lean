import DynetxModel
/-
  List facts shared by all regions.  `c13_Res`, the result type of the path searches, is here because this is the module
  the path files and the conformity files share.
-/
namespace Dynetx

/-- what `time_respecting_paths` and `all_time_respecting_paths` return: the dictionary (first node, last node) ↦ paths,
    in insertion order -/
abbrev c13_Res := List ((Node × Node) × List TPath)

section InsertNew
variable {α : Type} [BEq α] [LawfulBEq α] {l acc : List α} {x y : α}

theorem insertNew_of_mem (h : x ∈ l) : insertNew l x = l := by simp [insertNew, h]

theorem insertNew_of_not_mem (h : x ∉ l) : insertNew l x = l ++ [x] := by simp [insertNew, h]

theorem mem_insertNew : y ∈ insertNew l x ↔ y ∈ l ∨ y = x := by
  by_cases h : x ∈ l
  · rw [insertNew_of_mem h]
    exact ⟨Or.inl, fun h' => h'.elim id (· ▸ h)⟩
  · simp [insertNew_of_not_mem h]

theorem mem_foldl_insertNew : y ∈ l.foldl insertNew acc ↔ y ∈ acc ∨ y ∈ l := by
  induction l generalizing acc with
  | nil => simp
  | cons a l ih => simp [ih, mem_insertNew, or_assoc]

theorem nodup_insertNew (h : l.Nodup) : (insertNew l x).Nodup := by
  by_cases hx : x ∈ l
  · rwa [insertNew_of_mem hx]
  · rw [insertNew_of_not_mem hx]
    refine List.nodup_append.mpr ⟨h, by simp, fun a ha b hb hab => hx ?_⟩
    rwa [← List.mem_singleton.mp hb, ← hab]

theorem nodup_foldl_insertNew (h : acc.Nodup) : (l.foldl insertNew acc).Nodup := by
  induction l generalizing acc with
  | nil => exact h
  | cons a l ih => exact ih (nodup_insertNew h)

end InsertNew

/-- An invariant `P done st` of a left fold, indexed by the prefix `done` already processed (`[]` for a whole fold); in
    the step the new element may be assumed `R`-related to everything before it when the list is `R`-pairwise. -/
theorem foldl_prefix_inv {α β : Type} {R : α → α → Prop} (f : β → α → β) (P : List α → β → Prop)
    (hstep : ∀ done a st, (∀ t ∈ done, R t a) → P done st → P (done ++ [a]) (f st a)) :
    ∀ (w done : List α) (st : β), (done ++ w).Pairwise R → P done st → P (done ++ w) (w.foldl f st) := by
  intro w
  induction w with
  | nil => intro done st _ h; rwa [List.append_nil]
  | cons a w ih =>
    intro done st hp h
    have hlt : ∀ t ∈ done, R t a := fun t ht => (List.pairwise_append.mp hp).2.2 t ht a List.mem_cons_self
    rw [List.append_cons] at hp ⊢
    exact ih _ _ hp (hstep done a st hlt h)

theorem foldlM_prefix_inv {α β ε : Type} {R : α → α → Prop} (f : β → α → Except ε β) (P : List α → β → Prop)
    (hstep : ∀ done a st st', (∀ t ∈ done, R t a) → P done st → f st a = .ok st' → P (done ++ [a]) st') :
    ∀ (w done : List α) (st res : β), (done ++ w).Pairwise R → P done st → w.foldlM f st = .ok res →
      P (done ++ w) res := by
  intro w
  induction w with
  | nil => intro done st res _ h hr; cases hr; rwa [List.append_nil]
  | cons a w ih =>
    intro done st res hp h hr
    have hlt : ∀ t ∈ done, R t a := fun t ht => (List.pairwise_append.mp hp).2.2 t ht a List.mem_cons_self
    rw [List.append_cons] at hp ⊢
    rw [List.foldlM_cons] at hr
    cases hf : f st a with
    | error e => rw [hf] at hr; cases hr
    | ok st' => rw [hf] at hr; exact ih _ _ _ hp (hstep done a st st' hlt h hf) hr

/-- induction over a list by its consecutive pairs, as `c12_consec`, `hopsOf`, `pingPongOk` and `hopGaps` recurse -/
theorem consec_induction {α : Type} {motive : List α → Prop} (nil : motive []) (single : ∀ a, motive [a])
    (cons2 : ∀ a b r, motive (b :: r) → motive (a :: b :: r)) : ∀ l, motive l
  | [] => nil
  | [a] => single a
  | a :: b :: r => cons2 a b r (consec_induction nil single cons2 (b :: r))

theorem pairwise_mem_cases {α : Type} {R : α → α → Prop} {l : List α} (h : l.Pairwise R) {a b : α} (ha : a ∈ l)
    (hb : b ∈ l) : a = b ∨ R a b ∨ R b a := by
  induction l with
  | nil => cases ha
  | cons x xs ih =>
    rw [List.pairwise_cons] at h
    rcases List.mem_cons.mp ha with rfl | ha'
    · rcases List.mem_cons.mp hb with rfl | hb'
      · exact .inl rfl
      · exact .inr (.inl (h.1 b hb'))
    · rcases List.mem_cons.mp hb with rfl | hb'
      · exact .inr (.inr (h.1 a ha'))
      · exact ih h.2 ha' hb'

theorem sum_map_add {α : Type} (l : List α) (f k : α → Nat) :
    (l.map (fun n => f n + k n)).sum = (l.map f).sum + (l.map k).sum := by
  induction l with
  | nil => rfl
  | cons a rest ih => simp only [List.map_cons, List.sum_cons, ih]; exact Nat.add_add_add_comm ..

theorem length_eq_of_nodup {α} {l l' : List α} (h : l.Nodup) (h' : l'.Nodup) (hm : ∀ a, a ∈ l ↔ a ∈ l') :
    l.length = l'.length :=
  ((List.perm_ext_iff_of_nodup h h').mpr hm).length_eq

theorem minList_eq_min? (l : List Int) : minList l = l.min? := by
  induction l with
  | nil => rfl
  | cons x xs ih => rw [minList, ih, List.min?_cons]; cases xs.min? <;> rfl

theorem maxList_eq_max? (l : List Int) : maxList l = l.max? := by
  induction l with
  | nil => rfl
  | cons x xs ih => rw [maxList, ih, List.max?_cons]; cases xs.max? <;> rfl

theorem minList_eq_some_iff {l : List Int} {m : Int} : minList l = some m ↔ m ∈ l ∧ ∀ x ∈ l, m ≤ x :=
  minList_eq_min? l ▸ List.min?_eq_some_iff

theorem maxList_eq_some_iff {l : List Int} {m : Int} : maxList l = some m ↔ m ∈ l ∧ ∀ x ∈ l, x ≤ m :=
  maxList_eq_max? l ▸ List.max?_eq_some_iff

theorem minList_eq_none {l : List Int} : minList l = none ↔ l = [] :=
  minList_eq_min? l ▸ List.min?_eq_none_iff

theorem maxList_eq_none {l : List Int} : maxList l = none ↔ l = [] :=
  maxList_eq_max? l ▸ List.max?_eq_none_iff

theorem minList_spec {l : List Int} {m : Int} (h : minList l = some m) : m ∈ l ∧ ∀ x ∈ l, m ≤ x :=
  minList_eq_some_iff.mp h

theorem maxList_same_mem {l1 l2 : List Int} (h : ∀ x, x ∈ l1 ↔ x ∈ l2) : maxList l1 = maxList l2 :=
  Option.ext fun m => by simp only [maxList_eq_some_iff, h]

theorem minList_eq_head? {l : List Int} (hl : l.Pairwise (· < ·)) : minList l = l.head? := by
  cases l with
  | nil => rfl
  | cons x xs =>
    refine minList_eq_some_iff.mpr ⟨List.mem_cons_self, List.forall_mem_cons.mpr ⟨Int.le_refl x, fun y hy => ?_⟩⟩
    exact Int.le_of_lt ((List.pairwise_cons.mp hl).1 y hy)

theorem maxList_eq_getLast? {l : List Int} (hl : l.Pairwise (· < ·)) : maxList l = l.getLast? := by
  cases h : l.getLast? with
  | none => exact maxList_eq_none.mpr (List.getLast?_eq_none_iff.mp h)
  | some f =>
    obtain ⟨ys, rfl⟩ := List.getLast?_eq_some_iff.mp h
    refine maxList_eq_some_iff.mpr ⟨List.mem_append_right _ List.mem_cons_self, fun y hy => ?_⟩
    rcases List.mem_append.mp hy with hy | hy
    · exact Int.le_of_lt ((List.pairwise_append.mp hl).2.2 y hy f List.mem_cons_self)
    · exact Int.le_of_eq (List.mem_singleton.mp hy)

section EraseDups
variable {α : Type} [BEq α]

-- `eraseDups` runs `eraseDupsBy.loop as bs`; `bs` holds the distinct elements found so far, latest first

theorem nodup_eraseDupsLoop [LawfulBEq α] (as bs : List α) (h : bs.Nodup) :
    (List.eraseDupsBy.loop (· == ·) as bs).Nodup := by
  induction as generalizing bs with
  | nil => exact List.pairwise_reverse.mpr (h.imp Ne.symm)
  | cons a as ih =>
    unfold List.eraseDupsBy.loop
    cases hn : bs.any (a == ·)
    · refine ih _ (List.nodup_cons.mpr ⟨fun hm => ?_, h⟩)
      exact Bool.false_ne_true (hn ▸ List.any_eq_true.mpr ⟨a, hm, beq_self_eq_true a⟩)
    · exact ih bs h

theorem nodup_eraseDups [LawfulBEq α] (l : List α) : l.eraseDups.Nodup :=
  nodup_eraseDupsLoop l [] List.nodup_nil

theorem eraseDupsLoop_sublist (as bs : List α) :
    (List.eraseDupsBy.loop (· == ·) as bs).Sublist (bs.reverse ++ as) := by
  induction as generalizing bs with
  | nil => rw [List.append_nil]; exact .refl _
  | cons a as ih =>
    unfold List.eraseDupsBy.loop
    cases bs.any (a == ·)
    · have := ih (a :: bs)
      rwa [List.reverse_cons, List.append_assoc] at this
    · exact (ih bs).trans ((List.sublist_cons_self a as).append_left _)

theorem eraseDups_sublist (l : List α) : l.eraseDups.Sublist l :=
  eraseDupsLoop_sublist l []

end EraseDups

theorem pairwise_mergeSort_key {α : Type} (k : α → Int) (l : List α) :
    (l.mergeSort (fun a b => decide (k a ≤ k b))).Pairwise (fun a b => decide (k a ≤ k b) = true) :=
  List.pairwise_mergeSort (le := fun (a b : α) => decide (k a ≤ k b))
    (fun a b c h1 h2 => decide_eq_true (Int.le_trans (of_decide_eq_true h1) (of_decide_eq_true h2)))
    (fun a b => by simp only [Bool.or_eq_true, decide_eq_true_eq]; exact Int.le_total ..) l

theorem pairwise_mergeSort_key_le {α : Type} (k : α → Int) (l : List α) :
    (l.mergeSort (fun a b => decide (k a ≤ k b))).Pairwise (fun a b => k a ≤ k b) :=
  (pairwise_mergeSort_key k l).imp of_decide_eq_true

end Dynetx
