import DynetxProofs.Lemmas.Core
import DynetxProofs.Spec
namespace Dynetx

theorem inLog_append (d : Bool) (l1 l2 : List Accepted) (a b : Node) (x : Int) :
    inLog d (l1 ++ l2) a b x ↔ inLog d l1 a b x ∨ inLog d l2 a b x := by
  simp only [inLog, List.mem_append, or_and_right, exists_or]

theorem inLog_nil (d : Bool) (a b : Node) (x : Int) : ¬ inLog d [] a b x := by
  rintro ⟨s, hs, _⟩; cases hs

theorem inLog_single (d : Bool) (u v : Node) (t0 t1 : Int) (a b : Node) (x : Int) :
    inLog d [(u, v, t0, t1)] a b x ↔ (sameKey d u v a b = true ∧ t0 ≤ x ∧ x ≤ t1) := by
  simp only [inLog, List.mem_singleton, exists_eq_left]

structure BulkSpec (g : Graph) (log : List Accepted) (r : Graph × Option Err) : Prop where
  wf : WF r.1
  removal : r.1.removal = true
  directed : r.1.directed = g.directed
  outcome : r.2 = none ∨ r.2 = some .value
  presence : ∀ a b x, r.1.hasInteraction a b (some x) = true ↔
      g.hasInteraction a b (some x) = true ∨ inLog g.directed log a b x

theorem addFromGo_spec (g : Graph) (h : WF g) (hr : g.removal = true) (t0 : Int) (e : Option Int)
    (es : List (Node × Node)) : BulkSpec g (g.goLog t0 e es) (g.addFromGo es (some t0) e) := by
  induction es generalizing g with
  | nil => exact ⟨h, hr, rfl, Or.inl rfl, fun a b x => (or_iff_left (inLog_nil _ a b x)).symm⟩
  | cons p rest ih =>
    obtain ⟨u, v⟩ := p
    have hE := effE_removal g hr e
    unfold Graph.addFromGo Graph.goLog
    cases hs : spanEnd t0 e with
    | none =>
      rw [addInteraction_emptySpan g u v t0 e (by rw [hE, hs]), hE, hs]
      exact ih g h hr
    | some t1 =>
      have sp := addInteraction_stepSpec g h hr u v t0 e t1 hs
      rcases hres : g.addInteraction u v (some t0) e with ⟨g', _ | err⟩ <;> rw [hres] at sp
      · have rc := ih g' sp.wf (sp.removal.trans hr)
        rw [hE, hs]
        exact ⟨rc.wf, rc.removal, rc.directed.trans sp.directed, rc.outcome, fun a b x => by
          rw [rc.presence, sp.presence rfl, inLog_append, inLog_single, sp.directed, or_assoc]⟩
      · obtain ⟨ho, rfl⟩ := sp.outcome.resolve_left nofun
        exact ⟨h, hr, rfl, Or.inr ho, fun a b x => (or_iff_left (inLog_nil _ a b x)).symm⟩

/-- one API call of the add family (`Graph.step`); `.networkx` is the NetworkXError of a call without `t` -/
structure StepOk (g : Graph) (op : Op) : Prop where
  wf : WF (g.step op).1
  removal : (g.step op).1.removal = true
  directed : (g.step op).1.directed = g.directed
  outcome : (g.step op).2 = none ∨ (g.step op).2 = some .value ∨ ((g.step op).2 = some .networkx ∧ op.t = none)
  presence : ∀ a b x, (g.step op).1.hasInteraction a b (some x) = true ↔
      g.hasInteraction a b (some x) = true ∨ inLog g.directed (g.stepLog op) a b x

theorem step_ok (g : Graph) (h : WF g) (hr : g.removal = true) (op : Op) : StepOk g op := by
  obtain ⟨pairs, _ | t0, e⟩ := op
  · exact ⟨h, hr, rfl, Or.inr (Or.inr ⟨rfl, rfl⟩), fun a b x => (or_iff_left (inLog_nil _ a b x)).symm⟩
  · have s := addFromGo_spec g h hr t0 e pairs
    exact ⟨s.wf, s.removal, s.directed, s.outcome.imp_right Or.inl, s.presence⟩

structure RunOk (g : Graph) (ops : List Op) : Prop where
  wf : WF (g.run ops).1
  removal : (g.run ops).1.removal = true
  directed : (g.run ops).1.directed = g.directed
  outcomes : ∀ o ∈ (g.run ops).2, o = none ∨ o = some .value ∨ o = some .networkx
  presence : ∀ a b x, (g.run ops).1.hasInteraction a b (some x) = true ↔
      g.hasInteraction a b (some x) = true ∨ inLog g.directed (g.runLog ops) a b x

theorem run_ok (g : Graph) (h : WF g) (hr : g.removal = true) (ops : List Op) : RunOk g ops := by
  induction ops generalizing g with
  | nil => exact ⟨h, hr, rfl, List.forall_mem_nil _, fun a b x => (or_iff_left (inLog_nil _ a b x)).symm⟩
  | cons op rest ih =>
    have s := step_ok g h hr op
    have r := ih (g.step op).1 s.wf s.removal
    refine ⟨r.wf, r.removal, r.directed.trans s.directed, fun o ho => ?_, fun a b x => ?_⟩
    · rcases List.mem_cons.mp ho with rfl | ho'
      · exact s.outcome.imp_right (Or.imp_right And.left)
      · exact r.outcomes o ho'
    · refine (r.presence a b x).trans ?_
      rw [s.presence, s.directed, or_assoc, ← inLog_append]; rfl

theorem goLog_span_le (g : Graph) (t0 : Int) (e : Option Int) (es : List (Node × Node)) :
    ∀ s ∈ g.goLog t0 e es, s.2.2.1 ≤ s.2.2.2 := by
  induction es generalizing g with
  | nil => exact List.forall_mem_nil _
  | cons p rest ih =>
    unfold Graph.goLog
    split
    · refine List.forall_mem_append.mpr ⟨?_, ih _⟩
      split
      · rename_i hsp; exact List.forall_mem_singleton.mpr (spanEnd_le hsp)
      · exact List.forall_mem_nil _
    · exact List.forall_mem_nil _

theorem runLog_span_le (g : Graph) (ops : List Op) : ∀ s ∈ g.runLog ops, s.2.2.1 ≤ s.2.2.2 := by
  induction ops generalizing g with
  | nil => exact List.forall_mem_nil _
  | cons op rest ih =>
    refine List.forall_mem_append.mpr ⟨?_, ih _⟩
    unfold Graph.stepLog
    split
    · exact List.forall_mem_nil _
    · exact goLog_span_le _ _ _ _

theorem history_ok (d : Bool) (ops : List Op) : RunOk (Graph.empty d true) ops :=
  run_ok _ (WF.empty d true) rfl ops

theorem presence_history (d : Bool) (ops : List Op) (a b : Node) (x : Int) :
    ((Graph.empty d true).run ops).1.hasInteraction a b (some x) = true ↔
      inLog d ((Graph.empty d true).runLog ops) a b x := by
  rw [(history_ok d ops).presence, empty_hasInteraction]
  simp [Graph.empty]

/-- the bulk case of `C07_bulk`, in either mode -/
theorem addFromGo_failure_prefix (g : Graph) (es : List (Node × Node)) (t e : Option Int) (g' : Graph) (err : Err)
    (h : g.addFromGo es t e = (g', some err)) :
    ∃ k, k < es.length ∧ g.addFromGo (es.take k) t e = (g', none) := by
  induction es generalizing g with
  | nil => cases h
  | cons p rest ih =>
    unfold Graph.addFromGo at h
    split at h
    · rename_i g1 hres
      obtain ⟨k, hk, h1⟩ := ih g1 h
      exact ⟨k + 1, Nat.succ_lt_succ hk, by rw [List.take_succ_cons, Graph.addFromGo, hres]; exact h1⟩
    · rename_i g1 err1 hres
      cases h
      have := addInteraction_error_unchanged g p.1 p.2 t e err (by rw [hres])
      rw [hres] at this
      exact ⟨0, Nat.zero_lt_succ _, by rw [← this]; rfl⟩

end Dynetx
