import DynetxProofs.Lemmas.Events
/-
  Accumulative mode (edge_removal = False): no '-' event is ever written and a pair, once added, is present up to the
  largest accepted `t` of the whole graph.  `AccInv` is used pair by pair, through `AccInv.key` and its converse
  `AccInv.of_key`, which `findEdge_append` / `findEdge_mapTl` carry over a call.
-/
namespace Dynetx

/-- start of the oldest run (the last entry: the latest run is stored first); 0 on `[]`, which no stored pair has
    (`AccInv.first`) -/
def oldestStart (tl : List Span) : Int := (tl.getLast?.map (·.1)).getD 0

def firstLogged (d : Bool) (log : List Accepted) (a b : Node) : Option Int :=
  (log.find? (fun s => sameKey d s.1 s.2.1 a b)).map (·.2.2.1)

theorem effE_accum (g : Graph) (hr : g.removal = false) (e : Option Int) : g.effE e = none := by
  simp [Graph.effE, hr]

section branches
variable {g : Graph} (hr : g.removal = false) {u v : Node} {t0 : Int} {e : Option Int}
include hr

theorem addInteraction_accum_new (hf : g.findEdge u v = none) :
    g.addInteraction u v (some t0) e = (g.addNew u v t0 t0 none, none) := by
  simp only [Graph.addInteraction, effE_accum g hr, spanEnd, hf]

theorem addInteraction_accum_reject {ed : Edge} {a b : Int} {rest : List Span} (hf : g.findEdge u v = some ed)
    (htl : ed.tl = (a, b) :: rest) (hlt : t0 < a) :
    g.addInteraction u v (some t0) e = (g, some .value) := by
  simp only [Graph.addInteraction, effE_accum g hr, spanEnd, hf, htl, hlt, if_true]

theorem addInteraction_accum_ok {ed : Edge} {a b : Int} {rest : List Span} (hf : g.findEdge u v = some ed)
    (htl : ed.tl = (a, b) :: rest) (hlt : ¬ t0 < a) :
    g.addInteraction u v (some t0) e = (g.addAccum u v t0 a b rest, none) := by
  simp [Graph.addInteraction, effE_accum g hr, spanEnd, hf, htl, hlt, hr]

end branches

theorem oldestStart_accumTl (t0 a b : Int) (rest : List Span) :
    oldestStart (accumTl t0 a b rest) = oldestStart ((a, b) :: rest) := by
  unfold accumTl
  split
  · cases rest <;> rfl
  · rfl

theorem firstLogged_eq_none_iff (d : Bool) (log : List Accepted) (a b : Node) :
    firstLogged d log a b = none ↔ ¬ everLogged d log a b := by
  simp only [firstLogged, everLogged, Option.map_eq_none_iff, List.find?_eq_none, not_exists, not_and]

theorem everLogged_congr {d : Bool} {log : List Accepted} {a b a' b' : Node}
    (h : sameKey d a b a' b' = true) (hl : everLogged d log a b) : everLogged d log a' b' :=
  hl.imp fun _ hs => ⟨hs.1, sameKey_trans hs.2 h⟩

structure AccInv (g : Graph) (log : List Accepted) : Prop where
  keys : g.edges.Pairwise (fun e f => sameKey g.directed e.u e.v f.u f.v = false)
  first : ∀ e ∈ g.edges, e.tl ≠ [] ∧ firstLogged g.directed log e.u e.v = some (oldestStart e.tl)
  logged : ∀ s ∈ log, ∃ e ∈ g.edges, sameKey g.directed e.u e.v s.1 s.2.1 = true
  /-- the first clause of `C08_stream`: one '+' entry per stored pair and no '-' entry -/
  events : g.events = g.edges.map (fun e => ({ t := oldestStart e.tl, u := e.u, v := e.v, plus := true } : Ev))
  snaps : ∀ x, x ∈ g.snaps.map (·.1) ↔ ∃ s ∈ log, s.2.2.1 = x

theorem AccInv.empty (d : Bool) : AccInv (Graph.empty d false) [] :=
  ⟨List.Pairwise.nil, (by intro e he; cases he), (by intro s hs; cases hs), rfl,
   by intro x; simp [Graph.empty]⟩

theorem firstLogged_append (d : Bool) (log : List Accepted) (s : Accepted) (a b : Node) :
    firstLogged d (log ++ [s]) a b =
      (firstLogged d log a b).or (if sameKey d s.1 s.2.1 a b then some s.2.2.1 else none) := by
  unfold firstLogged
  rw [List.find?_append, Option.map_or, List.find?_singleton, apply_ite (Option.map _)]
  rfl

theorem firstLogged_congr {d : Bool} {log : List Accepted} {a b a' b' : Node}
    (h : sameKey d a b a' b' = true) : firstLogged d log a b = firstLogged d log a' b' := by
  unfold firstLogged
  congr 2
  funext s
  exact sameKey_congr_right h s.1 s.2.1

theorem AccInv.key {g : Graph} {log : List Accepted} (h : AccInv g log) (x y : Node) :
    firstLogged g.directed log x y = (g.findEdge x y).map fun e => oldestStart e.tl := by
  cases hf : g.findEdge x y with
  | some e =>
    obtain ⟨hm, hk⟩ := findEdge_some hf
    rw [← firstLogged_congr hk, (h.first e hm).2]; rfl
  | none =>
    rw [Option.map_none, firstLogged_eq_none_iff]
    rintro ⟨s, hs, hk⟩
    obtain ⟨e', he', hk'⟩ := h.logged s hs
    have := findEdge_none hf e' he'
    rw [sameKey_trans hk' hk] at this; cases this

theorem AccInv.of_key {g : Graph} {log : List Accepted} (keys : q1_Keys g) (ne : ∀ e ∈ g.edges, e.tl ≠ [])
    (key : ∀ x y, firstLogged g.directed log x y = (g.findEdge x y).map fun e => oldestStart e.tl)
    (events : g.events = g.edges.map (fun e => ({ t := oldestStart e.tl, u := e.u, v := e.v, plus := true } : Ev)))
    (snaps : ∀ x, x ∈ g.snaps.map (·.1) ↔ ∃ s ∈ log, s.2.2.1 = x) : AccInv g log where
  keys := keys
  first e he := ⟨ne e he, by rw [key, findEdge_of_keys keys he (sameKey_refl ..)]; rfl⟩
  logged s hs := by
    cases hf : g.findEdge s.1 s.2.1 with
    | some e => exact ⟨e, findEdge_some hf⟩
    | none =>
      have := key s.1 s.2.1
      rw [hf, Option.map_none, firstLogged_eq_none_iff] at this
      exact (this ⟨s, hs, sameKey_refl ..⟩).elim
  events := events
  snaps := snaps

theorem AccInv.flat {g : Graph} {log : List Accepted} (h : AccInv g log) (a b : Node) :
    g.hasInteraction a b none = true ↔ everLogged g.directed log a b := by
  have := firstLogged_eq_none_iff g.directed log a b
  rw [h.key] at this
  unfold Graph.hasInteraction
  cases hf : g.findEdge a b <;> simp_all

theorem addInteraction_accInv (g : Graph) (hr : g.removal = false) (log : List Accepted) (h : AccInv g log)
    (u v : Node) (t0 : Int) (e : Option Int) {g' : Graph} {o : Option Err}
    (hres : g.addInteraction u v (some t0) e = (g', o)) :
    g'.removal = false ∧ g'.directed = g.directed ∧
    ((o = none ∧ AccInv g' (log ++ [(u, v, t0, t0)])) ∨ (o = some .value ∧ g' = g)) := by
  rw [Prod.ext_iff] at hres
  obtain ⟨rfl, rfl⟩ := hres
  have hd := addInteraction_directed g u v (some t0) e
  refine ⟨(addInteraction_removal ..).trans hr, hd, ?_⟩
  have hkeys := addInteraction_keys h.keys u v (some t0) e
  -- both accepting branches bump the counter of `t0` and log `(u, v, t0, t0)`
  have hsnaps : ∀ x, x ∈ (bumpAll g.snaps (irange t0 t0)).map (·.1) ↔
      ∃ s ∈ log ++ [(u, v, t0, t0)], s.2.2.1 = x := by
    intro x
    rw [irange_single, show bumpAll g.snaps [t0] = bump g.snaps t0 from rfl, bump_eq, bumpBy_keys, h.snaps x]
    simp only [List.mem_append, List.mem_singleton, or_and_right, exists_or, exists_eq_left, eq_comm]
  cases hf : g.findEdge u v with
  | none =>
    rw [addInteraction_accum_new hr hf, addNew_eq] at hkeys hd ⊢
    refine Or.inl ⟨rfl, .of_key hkeys ?ne ?key ?events (by rw [hr]; exact hsnaps)⟩
    case ne =>
      intro e' he'
      rcases List.mem_append.mp he' with he' | he'
      · exact (h.first e' he').1
      · rw [List.mem_singleton.mp he']; exact List.cons_ne_nil _ _
    case key =>
      intro x y
      rw [hd, firstLogged_append, h.key, findEdge_append hd rfl, Option.map_or, apply_ite (Option.map _)]
      rfl
    case events =>
      -- no entry of the pair is in the log, so the '+' entry is appended
      simp only [List.map_append, ← h.events]
      refine addEv_fresh fun ev hev hc => ?_
      rw [h.events, List.mem_map] at hev
      obtain ⟨e', he', rfl⟩ := hev
      exact Bool.eq_false_iff.mp (findEdge_none hf e' he') hc.2.1
  | some ed =>
    obtain ⟨hedm, hedk⟩ := findEdge_some hf
    obtain ⟨⟨a, b⟩, rest, htl⟩ := List.exists_cons_of_ne_nil (h.first ed hedm).1
    by_cases hlt : t0 < a
    · rw [addInteraction_accum_reject hr hf htl hlt]; exact Or.inr ⟨rfl, rfl⟩
    · rw [addInteraction_accum_ok hr hf htl hlt] at hkeys hd ⊢
      have hed : (g.addAccum u v t0 a b rest).edges = mapTl g u v (accumTl t0 a b rest) := by
        rw [addAccum_eq]
      -- the stored edge of the pair keeps the start of its oldest run
      have hold : ∀ e' ∈ g.edges, oldestStart
          (if sameKey g.directed e'.u e'.v u v then { e' with tl := accumTl t0 a b rest } else e').tl = oldestStart e'.tl := by
        intro e' he'
        cases hk : sameKey g.directed e'.u e'.v u v
        · rfl
        · rw [edge_unique h.keys he' hedm hk hedk, htl]; exact oldestStart_accumTl ..
      refine Or.inl ⟨rfl, .of_key hkeys ?ne ?key ?events (by rw [addAccum_eq]; exact hsnaps)⟩
      case ne =>
        rw [hed]
        exact forall_mapTl (fun e he => (h.first e he).1) fun _ _ => by
          unfold accumTl; split <;> exact List.cons_ne_nil _ _
      case key =>
        intro x y
        rw [hd, firstLogged_append, h.key, findEdge_mapTl hd hed]
        cases hx : g.findEdge x y with
        | none => rw [if_neg fun hk => by rw [← findEdge_congr g hk, hf] at hx; cases hx]; rfl
        | some e0 => exact congrArg some (hold e0 (findEdge_some hx).1).symm
      case events =>
        rw [hed, show (g.addAccum u v t0 a b rest).events = g.events by rw [addAccum_eq], h.events, mapTl, List.map_map]
        refine List.map_congr_left fun e0 he0 => ?_
        rw [Function.comp_apply, hold e0 he0]
        cases sameKey g.directed e0.u e0.v u v <;> rfl

structure AccBulk (g : Graph) (log log' : List Accepted) (r : Graph × Option Err) : Prop where
  removal : r.1.removal = false
  directed : r.1.directed = g.directed
  inv : AccInv r.1 (log ++ log')
  outcome : r.2 = none ∨ r.2 = some .value

theorem addFromGo_accInv (g : Graph) (hr : g.removal = false) (log : List Accepted) (h : AccInv g log)
    (t0 : Int) (e : Option Int) (es : List (Node × Node)) :
    AccBulk g log (g.goLog t0 e es) (g.addFromGo es (some t0) e) := by
  induction es generalizing g log with
  | nil => exact ⟨hr, rfl, by rwa [← List.append_nil log] at h, Or.inl rfl⟩
  | cons p rest ih =>
    obtain ⟨u, v⟩ := p
    unfold Graph.addFromGo Graph.goLog
    rcases hres : g.addInteraction u v (some t0) e with ⟨g', o⟩
    obtain ⟨hr', hd', ⟨rfl, hinv⟩ | ⟨rfl, rfl⟩⟩ := addInteraction_accInv g hr log h u v t0 e hres
    · have rc := ih g' hr' _ hinv
      rw [effE_accum g hr]
      exact ⟨rc.removal, rc.directed.trans hd', by have := rc.inv; rwa [List.append_assoc] at this, rc.outcome⟩
    · exact ⟨hr, rfl, by rwa [← List.append_nil log] at h, Or.inr rfl⟩

theorem step_accInv (g : Graph) (hr : g.removal = false) (log : List Accepted) (h : AccInv g log) (op : Op) :
    (g.step op).1.removal = false ∧ AccInv (g.step op).1 (log ++ g.stepLog op) ∧
      ((g.step op).2 = none ∨ (g.step op).2 = some .value ∨ (g.step op).2 = some .networkx) := by
  obtain ⟨pairs, _ | t0, e⟩ := op
  · exact ⟨hr, by rwa [← List.append_nil log] at h, Or.inr (Or.inr rfl)⟩
  · have s := addFromGo_accInv g hr log h t0 e pairs
    exact ⟨s.removal, s.inv, s.outcome.imp_right Or.inl⟩

theorem run_accInv (g : Graph) (hr : g.removal = false) (log : List Accepted) (h : AccInv g log) (ops : List Op) :
    AccInv (g.run ops).1 (log ++ g.runLog ops) ∧
      ∀ o ∈ (g.run ops).2, o = none ∨ o = some .value ∨ o = some .networkx := by
  induction ops generalizing g log with
  | nil => exact ⟨by rwa [← List.append_nil log] at h, List.forall_mem_nil _⟩
  | cons op rest ih =>
    obtain ⟨s1, s3, s4⟩ := step_accInv g hr log h op
    obtain ⟨r3, r4⟩ := ih (g.step op).1 s1 _ s3
    rw [List.append_assoc] at r3
    refine ⟨r3, fun o ho => ?_⟩
    rcases List.mem_cons.mp ho with rfl | ho'
    · exact s4
    · exact r4 o ho'

theorem accInv_history (d : Bool) (ops : List Op) :
    AccInv ((Graph.empty d false).run ops).1 ((Graph.empty d false).runLog ops) := by
  simpa using (run_accInv (Graph.empty d false) rfl [] (AccInv.empty d) ops).1

theorem AccInv.presence {g : Graph} {log : List Accepted} (h : AccInv g log) (hr : g.removal = false)
    (a b : Node) (x : Int) :
    g.hasInteraction a b (some x) = true ↔
      ∃ t0 m, firstLogged g.directed log a b = some t0 ∧ maxList (log.map (·.2.2.1)) = some m ∧ t0 ≤ x ∧ x ≤ m := by
  -- in this mode `presenceTest` compares `x` with the start of the oldest run (`key`: the first accepted add) and with
  -- `max(snapshots)`, whose keys are the accepted instants (`snaps`)
  have hmax : maxList (g.snaps.map (·.1)) = maxList (log.map (·.2.2.1)) := by
    apply maxList_same_mem
    intro y
    rw [h.snaps y]
    simp only [List.mem_map]
  rw [h.key]
  unfold Graph.hasInteraction
  cases hf : g.findEdge a b with
  | none => simp
  | some ed =>
    obtain ⟨last, rest, htl⟩ := List.exists_cons_of_ne_nil (h.first ed (findEdge_some hf).1).1
    obtain ⟨first, hfirst⟩ : ∃ first, (last :: rest).getLast? = some first := ⟨_, List.getLast?_cons⟩
    simp only [Graph.presenceTest, Option.map_some, oldestStart, htl, hfirst, hr, Bool.false_eq_true, if_false, hmax]
    cases maxList (log.map (·.2.2.1)) with
    | none => simp only [Bool.false_eq_true, reduceCtorEq, false_and, and_false, exists_false]
    | some m =>
      simp only [Bool.and_eq_true, decide_eq_true_eq, Option.some.injEq, exists_eq_left', exists_and_left, Option.getD_some]
end Dynetx
