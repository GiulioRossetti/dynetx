import DynetxProofs.Lemmas.Lists
/-
  `d[k] = …` on an insertion-ordered dictionary kept as a list of pairs, the way the model writes it out
  (`if l.any (·.1 == k) then l.map (fun e => if e.1 == k then … else e) else l ++ [(k, …)]`).  The read `d.get(k)` is
  `List.find? (·.1 == k)`: `dictGet` (NodeLinkAttrs.lean), `rankOf` (IO.lean) and `c20s_get` (C20Sliding.lean) all unfold
  to `(l.find? (·.1 == k)).map (·.2)`.
-/
namespace Dynetx

theorem beq_of_inj {α β : Type} [BEq α] [LawfulBEq α] [BEq β] [LawfulBEq β] {f : α → β}
    (hf : Function.Injective f) (x y : α) : (f x == f y) = (x == y) :=
  Bool.eq_iff_iff.mpr (by simp only [beq_iff_eq]; exact ⟨fun h => hf h, congrArg f⟩)

/-- `upd` maps the whole entry, not the value: the model writes the new entry both as `(e.1, f e.2)` and as `(k, v)`
    (`setAttr`, `dictSet`), and each instance is to unfold to the model's text; `hupd` below asks that the key stays `k`. -/
def upsert {κ β : Type} [BEq κ] (l : List (κ × β)) (k : κ) (upd : κ × β → κ × β) (new : β) : List (κ × β) :=
  if l.any (fun e => e.1 == k) then l.map (fun e => if e.1 == k then upd e else e) else l ++ [(k, new)]

theorem forall_upsert {κ β : Type} [BEq κ] {Q : κ × β → Prop} {l : List (κ × β)} {k : κ} {upd : κ × β → κ × β} {new : β}
    (hl : ∀ e ∈ l, Q e) (hupd : ∀ e ∈ l, Q (upd e)) (hnew : Q (k, new)) : ∀ e ∈ upsert l k upd new, Q e := by
  unfold upsert
  cases l.any (fun e => e.1 == k) with
  | true =>
    refine List.forall_mem_map.mpr fun e0 h0 => ?_
    cases e0.1 == k
    · exact hl e0 h0
    · exact hupd e0 h0
  | false => exact List.forall_mem_append.mpr ⟨hl, List.forall_mem_singleton.mpr hnew⟩

theorem map_upsert {κ κ' β β' : Type} [BEq κ] [LawfulBEq κ] [BEq κ'] [LawfulBEq κ'] (F : κ × β → κ' × β') (f : κ → κ')
    (hf : Function.Injective f) (hF : ∀ e, (F e).1 = f e.1) (l : List (κ × β)) (k : κ) (upd : κ × β → κ × β)
    (upd' : κ' × β' → κ' × β') (new : β) (hupd : ∀ e, upd' (F e) = F (upd e)) :
    upsert (l.map F) (f k) upd' (F (k, new)).2 = (upsert l k upd new).map F := by
  have hnew : (f k, (F (k, new)).2) = F (k, new) := Prod.ext (hF (k, new)).symm rfl
  simp only [upsert, List.any_map, List.map_map, Function.comp_def, hF, beq_of_inj hf, hnew,
    apply_ite (List.map F), List.map_append, List.map_cons, List.map_nil, apply_ite F, hupd]

section keys
variable {κ β : Type} [BEq κ] [LawfulBEq κ] {k : κ} {upd : κ × β → κ × β}
  (hupd : ∀ e, e.1 == k → (upd e).1 == k)
include hupd

theorem upsert_entry_key (e : κ × β) : (if e.1 == k then upd e else e).1 = e.1 := by
  cases h : e.1 == k
  · rfl
  · exact (eq_of_beq (hupd e h)).trans (eq_of_beq h).symm

theorem upsert_keys (l : List (κ × β)) (new : β) : (upsert l k upd new).map (·.1) = insertNew (l.map (·.1)) k := by
  unfold upsert
  cases h : l.any (fun e => e.1 == k)
  · refine (List.map_append ..).trans (insertNew_of_not_mem fun hm => ?_).symm
    obtain ⟨e, he, rfl⟩ := List.mem_map.mp hm
    exact Bool.false_ne_true (h ▸ List.any_eq_true.mpr ⟨e, he, beq_self_eq_true _⟩)
  · obtain ⟨e, he, hk⟩ := List.any_eq_true.mp h
    rw [insertNew_of_mem (eq_of_beq hk ▸ List.mem_map_of_mem he)]
    exact (List.map_map ..).trans (List.map_congr_left fun e _ => upsert_entry_key hupd e)

theorem filter_upsert_ne (l : List (κ × β)) (new : β) :
    (upsert l k upd new).filter (fun e => e.1 != k) = l.filter (fun e => e.1 != k) := by
  unfold upsert
  cases l.any (fun e => e.1 == k)
  · simp [List.filter_append]
  · show (l.map _).filter _ = _
    rw [List.filter_map, show ((fun e : κ × β => e.1 != k) ∘ fun e => if e.1 == k then upd e else e) = fun e => e.1 != k
      from funext fun e => congrArg (· != k) (upsert_entry_key hupd e)]
    refine (List.map_congr_left fun e he => if_neg ?_).trans (List.map_id _)
    simpa using (List.mem_filter.mp he).2

end keys

theorem find?_upsert {κ β : Type} [BEq κ] [LawfulBEq κ] (l : List (κ × β)) (k k' : κ) (upd : κ × β → κ × β)
    (new : β) (hupd : ∀ e, e.1 == k → (upd e).1 == k) :
    (upsert l k upd new).find? (fun e => e.1 == k') =
      if k == k' then some (match l.find? (fun e => e.1 == k) with | some e => upd e | none => (k, new))
      else l.find? (fun e => e.1 == k') := by
  unfold upsert
  cases hf : l.find? (fun e => e.1 == k) with
  | none =>
    have hany : ¬ l.any (fun e => e.1 == k) = true := by
      rw [List.any_eq_true]; rintro ⟨e, he, hek⟩; exact List.find?_eq_none.1 hf e he hek
    rw [if_neg hany, List.find?_append]
    by_cases hk : k == k'
    · rw [← beq_iff_eq.1 hk, hf]; simp
    · simp [hk]
  | some e0 =>
    have he0 := List.find?_some hf
    rw [if_pos (List.any_eq_true.2 ⟨e0, List.mem_of_find?_eq_some hf, he0⟩), List.find?_map]
    have hp : ((fun e : κ × β => e.1 == k') ∘ fun e => if e.1 == k then upd e else e) = fun e => e.1 == k' :=
      funext fun e => congrArg (· == k') (upsert_entry_key hupd e)
    rw [hp]
    by_cases hk : k == k'
    · rw [← beq_iff_eq.1 hk, hf]; simp [he0]
    · cases hf' : l.find? (fun e => e.1 == k') with
      | none => simp [hk]
      | some e' =>
        have hk' : e'.1 = k' := beq_iff_eq.1 (List.find?_some (p := fun e : κ × β => e.1 == k') hf')
        have : ¬ (e'.1 == k) = true := by rw [hk', BEq.comm]; exact hk
        simp [hk, this]
end Dynetx
