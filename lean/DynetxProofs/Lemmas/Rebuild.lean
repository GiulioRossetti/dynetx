import DynetxProofs.Lemmas.AddMany
import DynetxProofs.Q2
/-
  What time_slice, to_directed, to_undirected (and the writers of C09) share: a data list
  `(u, v, ascending timeline)` with one entry per stored pair, the calls made for such a list, and
  the graph those calls build on a graph without interactions.
-/
namespace Dynetx

/-- what the proof needs of the data: one entry per stored pair, carrying the pair's exposed timeline -/
structure c06_DataOk (g : Graph) (d : List (Node × Node × List Span)) : Prop where
  canon : ∀ p ∈ d, CanonAsc p.2.2
  pres : ∀ p ∈ d, ∀ a b, sameKey g.directed p.1 p.2.1 a b = true →
    ∀ x, (g.hasInteraction a b (some x) = true ↔ memTl p.2.2 x)
  keys : d.Pairwise (fun p q => ¬ (sameKey g.directed p.1 p.2.1 q.1 q.2.1 = true))
  complete : ∀ a b x, g.hasInteraction a b (some x) = true →
    ∃ p ∈ d, sameKey g.directed p.1 p.2.1 a b = true

/-- what `interactions_iter` / `out_interactions_iter` yield for the pairs `ps`: `(u, v, t-list)`;
    `g.interactionsData` and `g.outInteractionsData` are this list for `g.interactions` and `g.outInteractions` -/
def dataOf (g : Graph) (ps : List (Node × Node)) : List (Node × Node × List Span) :=
  ps.map fun p => (p.1, p.2, (g.timeline p.1 p.2).getD [])

/-- any pairs with distinct keys that cover the stored pairs will do; both iterations are such (`c06_dataOk`) -/
theorem c06_dataOk_of_pairs {g : Graph} (h : WF g) (hr : g.removal = true) (ps : List (Node × Node))
    (hk : ps.Pairwise (fun p q => ¬ (sameKey g.directed p.1 p.2 q.1 q.2 = true)))
    (hc : ∀ a b, g.hasInteraction a b none = true → ∃ p ∈ ps, sameKey g.directed p.1 p.2 a b = true) :
    c06_DataOk g (dataOf g ps) := by
  refine ⟨?_, ?_, List.pairwise_map.mpr hk, ?_⟩
  · intro p hp
    obtain ⟨q, _, rfl⟩ := List.mem_map.mp hp
    exact h.timeline_canonAsc _ _
  · intro p hp a b hab x
    obtain ⟨q, _, rfl⟩ := List.mem_map.mp hp
    rw [← hasInteraction_key hab, h.memTl_timeline hr]
  · intro a b x hx
    obtain ⟨p, hp, hpk⟩ := hc a b (q1_has_some_flat _ _ _ _ hx)
    exact ⟨_, List.mem_map_of_mem hp, hpk⟩

theorem nodup_directed_keys {l : List (Node × Node)} (h : l.Nodup) :
    l.Pairwise (fun p q => ¬ (sameKey true p.1 p.2 q.1 q.2 = true)) :=
  h.imp fun hpq hk => hpq (Prod.ext ((sameKey_directed_iff ..).mp hk).1 ((sameKey_directed_iff ..).mp hk).2)

/-- the iteration `time_slice` and `generate_snapshots` use: `out_interactions_iter` (directed) or
    `interactions_iter` -/
def c06_data (g : Graph) : List (Node × Node × List Span) :=
  if g.directed then g.outInteractionsData else g.interactionsData

theorem c06_dataOk {g : Graph} (h : WF g) (hr : g.removal = true) (hn : NodeInv g) :
    c06_DataOk g (c06_data g) := by
  unfold c06_data
  cases hd : g.directed with
  | true =>
    refine c06_dataOk_of_pairs h hr (g.outInteractions none none) ?_ ?_
    · rw [hd]; exact nodup_directed_keys (C02_outInteractions_nodup h hn.q2 none)
    · intro a b hf
      exact ⟨(a, b), (C02_outInteractions_directed hn.q2 none a b).mpr hf, sameKey_refl _ _ _⟩
  | false =>
    refine c06_dataOk_of_pairs h hr (g.interactions none none) ?_ ?_
    · rw [hd]; exact C02_interactions_once h hn.q2 none
    · intro a b hf
      rcases C02_interactions_complete hn.q2 hd none a b hf with h1 | h1
      · exact ⟨(a, b), h1, sameKey_refl _ _ _⟩
      · exact ⟨(b, a), h1, (sameKey_iff ..).mpr (.inr ⟨hd, rfl, rfl⟩)⟩

/-- the calls of the rebuilding loops: `add_interaction(u, v, a, b + 1)` for every interval `(a, b)` of the data -/
def callsOf (d : List (Node × Node × List Span)) : List Call4 :=
  d.flatMap (fun p => p.2.2.map (fun s => (p.1, p.2.1, s.1, some (s.2 + 1))))

theorem inCalls_callsOf (dir : Bool) (d : List (Node × Node × List Span))
    (hne : ∀ p ∈ d, ∀ s ∈ p.2.2, s.1 ≤ s.2) (a b : Node) (x : Int) :
    inCalls dir (callsOf d) a b x ↔ ∃ p ∈ d, sameKey dir p.1 p.2.1 a b = true ∧ memTl p.2.2 x := by
  unfold inCalls callsOf memTl
  simp only [List.mem_flatMap, List.mem_map]
  constructor
  · rintro ⟨_, ⟨p, hp, s, hs, rfl⟩, hk, t1, hsp, hx⟩
    rw [spanEnd_succ (hne p hp s hs)] at hsp
    cases hsp
    exact ⟨p, hp, hk, s, hs, hx⟩
  · rintro ⟨p, hp, hk, s, hs, hx⟩
    exact ⟨_, ⟨p, hp, s, hs, rfl⟩, hk, s.2, spanEnd_succ (hne p hp s hs), hx⟩

theorem callsSorted_callsOf (dir : Bool) (d : List (Node × Node × List Span))
    (hk : d.Pairwise (fun p q => ¬ (sameKey dir p.1 p.2.1 q.1 q.2.1 = true)))
    (hc : ∀ p ∈ d, CanonAsc p.2.2) : CallsSorted dir (callsOf d) := by
  unfold CallsSorted callsOf
  rw [List.pairwise_flatMap]
  constructor
  · intro p hp
    rw [List.pairwise_map]
    refine (hc p hp).pairwise.imp_of_mem ?_
    intro s r hs _ hsr _
    have := (hc p hp).all_le s hs
    show s.1 ≤ r.1
    omega
  · refine hk.imp ?_
    intro p q hpq c1 hc1 c2 hc2 hkey
    obtain ⟨s1, _, rfl⟩ := List.mem_map.mp hc1
    obtain ⟨s2, _, rfl⟩ := List.mem_map.mp hc2
    exact absurd hkey hpq

/-- What the rebuilding loops rest on. On a graph without interactions the calls of a data list with distinct keys and
    canonical ascending timelines are all accepted (per pair their starts ascend: `callsSorted_callsOf`), and the graph
    built has the presence the data describe (`inCalls_callsOf`). -/
theorem addMany_callsOf (h0 : Graph) (he : h0.edges = []) (hr : h0.removal = true)
    (d : List (Node × Node × List Span))
    (hk : d.Pairwise (fun p q => ¬ (sameKey h0.directed p.1 p.2.1 q.1 q.2.1 = true)))
    (hc : ∀ p ∈ d, CanonAsc p.2.2) :
    ∃ h, h0.addMany (callsOf d) = (h, none) ∧ ManyInv h0.directed h (callsOf d) ∧
      ∀ a b x, h.hasInteraction a b (some x) = true ↔
        ∃ p ∈ d, sameKey h0.directed p.1 p.2.1 a b = true ∧ memTl p.2.2 x := by
  obtain ⟨h, hres, hinv⟩ := addMany_sorted h0 he hr _ (callsSorted_callsOf _ d hk hc)
  refine ⟨h, hres, hinv, fun a b x => ?_⟩
  rw [hinv.presence, inCalls_callsOf _ _ (fun p hp => (hc p hp).all_le)]

theorem timeSlice_ok_iff {g : Graph} {a : Int} {bo : Option Int} {H : Graph} :
    g.timeSlice a bo = .ok H ↔ (∀ b, bo = some b → a ≤ b) ∧
      ∃ h0, (Graph.empty g.directed true).addMany (sliceCalls a (bo.getD a) (c06_data g)) = (h0, none) ∧
        H = { h0 with nodes := copyAttrs g.nodes h0.nodes } := by
  have hc : (bo.isSome && decide (bo.getD a < a)) = true ↔ ¬ ∀ b, bo = some b → a ≤ b := by
    cases bo <;> simp
  unfold Graph.timeSlice c06_data
  by_cases hw : ∀ b, bo = some b → a ≤ b
  · simp only [if_neg (mt hc.mp (not_not_intro hw)), and_iff_right hw]
    generalize (Graph.empty g.directed true).addMany _ = r
    obtain ⟨h, _ | e⟩ := r <;> simp [eq_comm]
  · simp only [if_pos (hc.mpr hw)]
    exact ⟨nofun, fun h => absurd h.1 hw⟩

end Dynetx
