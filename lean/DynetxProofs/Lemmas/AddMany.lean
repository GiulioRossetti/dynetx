import DynetxProofs.Lemmas.Core
import DynetxProofs.Lemmas.Folds
/-
  The library's own constructors (time_slice, to_directed, to_undirected, the readers, node_link_graph) build their result
  by a sequence of add_interaction calls on a fresh graph.
-/
namespace Dynetx

def inCalls (d : Bool) (calls : List Call4) (a b : Node) (x : Int) : Prop :=
  ∃ c ∈ calls, sameKey d c.1 c.2.1 a b = true ∧ ∃ t1, spanEnd c.2.2.1 c.2.2.2 = some t1 ∧ c.2.2.1 ≤ x ∧ x ≤ t1

def CallsSorted (d : Bool) (calls : List Call4) : Prop :=
  calls.Pairwise (fun c1 c2 => sameKey d c1.1 c1.2.1 c2.1 c2.2.1 = true → c1.2.2.1 ≤ c2.2.2.1)

theorem inCalls_append (d : Bool) (l1 l2 : List Call4) (a b : Node) (x : Int) :
    inCalls d (l1 ++ l2) a b x ↔ inCalls d l1 a b x ∨ inCalls d l2 a b x := by
  simp only [inCalls, List.mem_append, or_and_right, exists_or]

theorem inCalls_single (d : Bool) (c : Call4) (a b : Node) (x : Int) :
    inCalls d [c] a b x ↔
      sameKey d c.1 c.2.1 a b = true ∧ ∃ t1, spanEnd c.2.2.1 c.2.2.2 = some t1 ∧ c.2.2.1 ≤ x ∧ x ≤ t1 := by
  simp only [inCalls, List.mem_singleton, exists_eq_left]

structure ManyInv (d : Bool) (g : Graph) (done : List Call4) : Prop where
  wf : WF g
  removal : g.removal = true
  directed : g.directed = d
  presence : ∀ a b x, g.hasInteraction a b (some x) = true ↔ inCalls d done a b x

theorem ManyInv.step {d : Bool} {g : Graph} {done : List Call4} (h : ManyInv d g done) (c : Call4)
    (hord : ∀ c' ∈ done, sameKey d c'.1 c'.2.1 c.1 c.2.1 = true → c'.2.2.1 ≤ c.2.2.1) :
    (g.addInteraction c.1 c.2.1 (some c.2.2.1) c.2.2.2).2 = none ∧
    ManyInv d (g.addInteraction c.1 c.2.1 (some c.2.2.1) c.2.2.2).1 (done ++ [c]) := by
  obtain ⟨u, v, t0, e⟩ := c
  cases hs : spanEnd t0 e with
  | none =>
    rw [addInteraction_emptySpan g u v t0 e (by rw [effE_removal g h.removal, hs])]
    exact ⟨rfl, h.wf, h.removal, h.directed, fun a b x => by
      rw [h.presence, inCalls_append, inCalls_single, hs]; exact (or_iff_left fun ⟨_, _, h, _⟩ => nomatch h).symm⟩
  | some t1 =>
    have sp := addInteraction_stepSpec g h.wf h.removal u v t0 e t1 hs
    have hacc : (g.addInteraction u v (some t0) e).2 = none := by
      refine sp.accepted fun ed a b rest hf htl => ?_
      obtain ⟨hpa, hpa'⟩ := h.wf.head_start h.removal hf htl
      obtain ⟨c', hc', hk, t1', hsp', h1, h2⟩ := (h.presence u v a).mp hpa
      have hle : c'.2.2.1 ≤ t0 := hord c' hc' hk
      -- the instant before `a` would be present unless `a` is the start of that call
      by_cases hst : c'.2.2.1 < a
      · have : g.hasInteraction u v (some (a - 1)) = true :=
          (h.presence u v (a - 1)).mpr ⟨c', hc', hk, t1', hsp', by omega, by omega⟩
        rw [hpa'] at this; cases this
      · omega
    exact ⟨hacc, sp.wf, sp.removal.trans h.removal, sp.directed.trans h.directed, fun a b x => by
      -- both sides: present before (by `done`), or the pair is that of the call and `x` lies in `[t0, t1]`
      simp only [sp.presence hacc, h.presence, inCalls_append, inCalls_single, hs, h.directed, Option.some.injEq,
        exists_eq_left']⟩

theorem ManyInv.addMany {d : Bool} {g : Graph} {done : List Call4} (h : ManyInv d g done) (calls : List Call4)
    (hs : CallsSorted d (done ++ calls)) :
    (g.addMany calls).2 = none ∧ ManyInv d (g.addMany calls).1 (done ++ calls) := by
  -- `foldExit_sim`, not `addMany_induction`: the invariant is indexed by the calls made so far, and no call fails
  obtain ⟨H, hH, inv⟩ := foldExit_sim (step := addRow) (I := ManyInv d) (S := done ++ calls)
    (fun g pre c post hS inv => by
      have hord : ∀ c' ∈ pre, sameKey d c'.1 c'.2.1 c.1 c.2.1 = true → c'.2.2.1 ≤ c.2.2.1 := by
        intro c' hc'
        unfold CallsSorted at hs
        rw [hS, List.pairwise_append] at hs
        exact hs.2.2 c' hc' c List.mem_cons_self
      exact ⟨_, Prod.ext rfl (inv.step c hord).1, (inv.step c hord).2⟩)
    calls done g rfl h
  rw [addMany_eq, hH]; exact ⟨rfl, inv⟩

theorem ManyInv.fresh (g : Graph) (he : g.edges = []) (hr : g.removal = true) : ManyInv g.directed g [] :=
  ⟨(WF.empty g.directed g.removal).congr he rfl, hr, rfl, fun a b x => by
    rw [hasInteraction_of_no_edges he]; exact iff_of_false Bool.false_ne_true fun ⟨c, hc, _⟩ => nomatch hc⟩

theorem addMany_sorted (g : Graph) (he : g.edges = []) (hr : g.removal = true) (calls : List Call4)
    (hs : CallsSorted g.directed calls) :
    ∃ H, g.addMany calls = (H, none) ∧ ManyInv g.directed H calls := by
  obtain ⟨h1, h2⟩ := (ManyInv.fresh g he hr).addMany calls (by simpa using hs)
  exact ⟨_, Prod.ext rfl h1, by simpa using h2⟩

end Dynetx
