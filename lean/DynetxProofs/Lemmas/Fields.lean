import DynetxProofs.Lemmas.Timeline
import DynetxProofs.Lemmas.Upsert
namespace Dynetx

theorem sameKey_iff (d : Bool) (u v a b : Node) :
    sameKey d u v a b = true ↔ (u = a ∧ v = b) ∨ (d = false ∧ v = a ∧ u = b) := by
  simp only [sameKey, Bool.or_eq_true, Bool.and_eq_true, beq_iff_eq, Bool.not_eq_true', and_assoc,
    and_comm (a := u = b)]

theorem sameKey_refl (d : Bool) (u v : Node) : sameKey d u v u v = true := by
  simp [sameKey]

theorem sameKey_symm (d : Bool) (u v a b : Node) : sameKey d u v a b = sameKey d a b u v := by
  rw [Bool.eq_iff_iff, sameKey_iff, sameKey_iff]; grind

theorem sameKey_symm_of {d : Bool} {u v a b : Node} (h : sameKey d u v a b = true) : sameKey d a b u v = true :=
  sameKey_symm d a b u v ▸ h

theorem sameKey_trans {d : Bool} {u v a b c e : Node} (h1 : sameKey d u v a b = true)
    (h2 : sameKey d a b c e = true) : sameKey d u v c e = true := by
  rw [sameKey_iff] at *; grind

theorem sameKey_congr_right {d : Bool} {a b x y : Node} (h : sameKey d a b x y = true) (u v : Node) :
    sameKey d u v a b = sameKey d u v x y :=
  Bool.eq_iff_iff.mpr ⟨fun h1 => sameKey_trans h1 h, fun h2 => sameKey_trans h2 (sameKey_symm_of h)⟩

theorem sameKey_swap_undirected (u v a b : Node) : sameKey false u v a b = sameKey false u v b a := by
  rw [Bool.eq_iff_iff, sameKey_iff, sameKey_iff]; grind

theorem sameKey_directed_iff (u v a b : Node) : sameKey true u v a b = true ↔ u = a ∧ v = b := by
  simp [sameKey]

/-- `__add_event` on the flattened `time_to_edge` -/
def addEv (d : Bool) (V : List Ev) (t : Int) (u v : Node) (p : Bool) : List Ev :=
  if V.any (fun e => e.t == t && sameKey d e.u e.v u v && e.plus == p) then V
  else V ++ [{ t := t, u := u, v := v, plus := p }]

/-- `__drop_event` -/
def dropEv (d : Bool) (V : List Ev) (t : Int) (u v : Node) (p : Bool) : List Ev :=
  V.filter (fun e => !(e.t == t && sameKey d e.u e.v u v && e.plus == p))

def optMinus (d : Bool) (V : List Ev) (e : Option Int) (u v : Node) : List Ev :=
  match e with
  | some e => addEv d V e u v false
  | none => V

theorem addEvent_eq (g : Graph) (t : Int) (u v : Node) (p : Bool) :
    g.addEvent t u v p = { g with events := addEv g.directed g.events t u v p } := by
  unfold Graph.addEvent addEv; split <;> rfl

theorem dropEvent_eq (g : Graph) (t : Int) (u v : Node) (p : Bool) :
    g.dropEvent t u v p = { g with events := dropEv g.directed g.events t u v p } := rfl

theorem optAddMinus_eq (g : Graph) (e : Option Int) (u v : Node) :
    optAddMinus g e u v = { g with events := optMinus g.directed g.events e u v } := by
  cases e with
  | none => rfl
  | some e => exact addEvent_eq g e u v false

section addEvent
variable (g : Graph) (t : Int) (u v : Node) (p : Bool)
@[simp] theorem addEvent_edges : (g.addEvent t u v p).edges = g.edges := by rw [addEvent_eq]
@[simp] theorem addEvent_directed : (g.addEvent t u v p).directed = g.directed := by rw [addEvent_eq]
@[simp] theorem addEvent_removal : (g.addEvent t u v p).removal = g.removal := by rw [addEvent_eq]
@[simp] theorem addEvent_nodes : (g.addEvent t u v p).nodes = g.nodes := by rw [addEvent_eq]
@[simp] theorem addEvent_snaps : (g.addEvent t u v p).snaps = g.snaps := by rw [addEvent_eq]
@[simp] theorem addEvent_gattr : (g.addEvent t u v p).gattr = g.gattr := by rw [addEvent_eq]
end addEvent

section dropEvent
variable (g : Graph) (t : Int) (u v : Node) (p : Bool)
@[simp] theorem dropEvent_edges : (g.dropEvent t u v p).edges = g.edges := rfl
@[simp] theorem dropEvent_directed : (g.dropEvent t u v p).directed = g.directed := rfl
@[simp] theorem dropEvent_removal : (g.dropEvent t u v p).removal = g.removal := rfl
@[simp] theorem dropEvent_nodes : (g.dropEvent t u v p).nodes = g.nodes := rfl
@[simp] theorem dropEvent_snaps : (g.dropEvent t u v p).snaps = g.snaps := rfl
@[simp] theorem dropEvent_gattr : (g.dropEvent t u v p).gattr = g.gattr := rfl
end dropEvent

-- `unfold` first: plain `rfl` tries to unify the updated graph with `g` and is several times dearer, here and for `bumpRange`
section ensureNodes
variable (g : Graph) (u v : Node)
@[simp] theorem ensureNodes_edges : (g.ensureNodes u v).edges = g.edges := by unfold Graph.ensureNodes; rfl
@[simp] theorem ensureNodes_directed : (g.ensureNodes u v).directed = g.directed := by unfold Graph.ensureNodes; rfl
@[simp] theorem ensureNodes_removal : (g.ensureNodes u v).removal = g.removal := by unfold Graph.ensureNodes; rfl
@[simp] theorem ensureNodes_events : (g.ensureNodes u v).events = g.events := by unfold Graph.ensureNodes; rfl
@[simp] theorem ensureNodes_snaps : (g.ensureNodes u v).snaps = g.snaps := by unfold Graph.ensureNodes; rfl
@[simp] theorem ensureNodes_gattr : (g.ensureNodes u v).gattr = g.gattr := by unfold Graph.ensureNodes; rfl
end ensureNodes

section setTl
variable (g : Graph) (u v : Node) (tl : List Span)
@[simp] theorem setTl_directed : (g.setTl u v tl).directed = g.directed := rfl
@[simp] theorem setTl_removal : (g.setTl u v tl).removal = g.removal := rfl
@[simp] theorem setTl_events : (g.setTl u v tl).events = g.events := rfl
@[simp] theorem setTl_snaps : (g.setTl u v tl).snaps = g.snaps := rfl
@[simp] theorem setTl_nodes : (g.setTl u v tl).nodes = g.nodes := rfl
@[simp] theorem setTl_gattr : (g.setTl u v tl).gattr = g.gattr := rfl
theorem setTl_edges : (g.setTl u v tl).edges =
    g.edges.map (fun e => if sameKey g.directed e.u e.v u v then { e with tl := tl } else e) := rfl
end setTl

section bumpRange
variable (g : Graph) (lo hi : Int)
@[simp] theorem bumpRange_edges : (g.bumpRange lo hi).edges = g.edges := by unfold Graph.bumpRange; rfl
@[simp] theorem bumpRange_directed : (g.bumpRange lo hi).directed = g.directed := by unfold Graph.bumpRange; rfl
@[simp] theorem bumpRange_removal : (g.bumpRange lo hi).removal = g.removal := by unfold Graph.bumpRange; rfl
@[simp] theorem bumpRange_events : (g.bumpRange lo hi).events = g.events := by unfold Graph.bumpRange; rfl
@[simp] theorem bumpRange_nodes : (g.bumpRange lo hi).nodes = g.nodes := by unfold Graph.bumpRange; rfl
@[simp] theorem bumpRange_gattr : (g.bumpRange lo hi).gattr = g.gattr := by unfold Graph.bumpRange; rfl
end bumpRange

section optAddMinus
variable (g : Graph) (e : Option Int) (u v : Node)
@[simp] theorem optAddMinus_edges : (optAddMinus g e u v).edges = g.edges := by rw [optAddMinus_eq]
@[simp] theorem optAddMinus_directed : (optAddMinus g e u v).directed = g.directed := by rw [optAddMinus_eq]
@[simp] theorem optAddMinus_removal : (optAddMinus g e u v).removal = g.removal := by rw [optAddMinus_eq]
@[simp] theorem optAddMinus_nodes : (optAddMinus g e u v).nodes = g.nodes := by rw [optAddMinus_eq]
@[simp] theorem optAddMinus_snaps : (optAddMinus g e u v).snaps = g.snaps := by rw [optAddMinus_eq]
@[simp] theorem optAddMinus_gattr : (optAddMinus g e u v).gattr = g.gattr := by rw [optAddMinus_eq]
end optAddMinus

/-- `update_node_attr(n, a)` is the dictionary write `_node[n] = a` -/
theorem setAttr_upsert (g : Graph) (n : Node) (a : Nat) :
    g.setAttr n a = { g with nodes := upsert g.nodes n (fun _ => (n, a)) a } := by
  unfold Graph.setAttr upsert
  split <;> rfl

theorem setAttr_frame (g : Graph) (n : Node) (a : Nat) : ∃ ns, g.setAttr n a = { g with nodes := ns } :=
  ⟨_, setAttr_upsert g n a⟩

/-- the node loop of `node_link_graph` -/
theorem nodeLoop_frame (ns : List (Node × Nat)) (g : Graph) :
    ∃ ns', ns.foldl (fun g (p : Node × Nat) => (g.addNode p.1).setAttr p.1 p.2) g = { g with nodes := ns' } := by
  induction ns generalizing g with
  | nil => exact ⟨g.nodes, rfl⟩
  | cons p rest ih =>
    obtain ⟨n1, h1⟩ := setAttr_frame (g.addNode p.1) p.1 p.2
    obtain ⟨n2, h2⟩ := ih ((g.addNode p.1).setAttr p.1 p.2)
    exact ⟨n2, by rw [List.foldl_cons, h2, h1]; rfl⟩

theorem stream_chronological (g : Graph) : (g.stream.map (·.t)).Pairwise (· ≤ ·) := by
  rw [List.pairwise_map]; exact pairwise_mergeSort_key_le (fun e : Ev => e.t) g.events

end Dynetx
