import DynetxProofs.Lemmas.Lists
namespace Dynetx

/-- a timeline as the model stores it, latest run first: runs non-empty and separated by at least one absent instant -/
def Canon : List Span → Prop
  | [] => True
  | [s] => s.1 ≤ s.2
  | s :: r :: rest => s.1 ≤ s.2 ∧ r.2 + 1 < s.1 ∧ Canon (r :: rest)

/-- the same for the exposed (oldest first) list -/
def CanonAsc : List Span → Prop
  | [] => True
  | [s] => s.1 ≤ s.2
  | s :: r :: rest => s.1 ≤ s.2 ∧ s.2 + 1 < r.1 ∧ CanonAsc (r :: rest)

def memTl (tl : List Span) (x : Int) : Prop := ∃ s ∈ tl, s.1 ≤ x ∧ x ≤ s.2

theorem Canon.tail {s : Span} {tl : List Span} (h : Canon (s :: tl)) : Canon tl := by
  cases tl with
  | nil => trivial
  | cons r rest => exact h.2.2

theorem Canon.extend {a b c : Int} {rest : List Span} (h : Canon ((a, b) :: rest)) (hc : a ≤ c) :
    Canon ((a, c) :: rest) := by
  cases rest with
  | nil => exact hc
  | cons r rest' => exact ⟨hc, h.2.1, h.2.2⟩

theorem canon_iff (tl : List Span) :
    Canon tl ↔ (∀ s ∈ tl, s.1 ≤ s.2) ∧ tl.Pairwise (fun s r => r.2 + 1 < s.1) := by
  induction tl with
  | nil => exact iff_of_true trivial ⟨List.forall_mem_nil _, .nil⟩
  | cons s rest ih =>
    cases rest with
    | nil => simp only [Canon, List.forall_mem_singleton, List.pairwise_singleton, and_true]
    | cons r rest' =>
      simp only [Canon, ih, List.pairwise_cons, List.forall_mem_cons]
      constructor
      · rintro ⟨h1, h2, ⟨h3, h4⟩, h5, h6⟩
        -- from "the next run" to "every older run": runs are non-empty
        refine ⟨⟨h1, h3, h4⟩, ⟨h2, fun q hq => ?_⟩, h5, h6⟩
        have := h5 q hq; omega
      · rintro ⟨⟨h1, h3, h4⟩, ⟨h2, _⟩, h5, h6⟩
        exact ⟨h1, h2, ⟨h3, h4⟩, h5, h6⟩

theorem Canon.below {s : Span} {tl : List Span} (h : Canon (s :: tl)) : ∀ r ∈ tl, r.2 + 1 < s.1 :=
  (List.pairwise_cons.mp ((canon_iff _).mp h).2).1

theorem Canon.all_le {tl : List Span} (h : Canon tl) : ∀ r ∈ tl, r.1 ≤ r.2 := ((canon_iff tl).mp h).1

theorem Canon.head_le {s : Span} {tl : List Span} (h : Canon (s :: tl)) : s.1 ≤ s.2 := h.all_le s List.mem_cons_self

theorem Canon.sep {tl : List Span} (h : Canon tl) {r s : Span} (hr : r ∈ tl) (hs : s ∈ tl) :
    r = s ∨ r.2 + 1 < s.1 ∨ s.2 + 1 < r.1 :=
  (pairwise_mem_cases ((canon_iff tl).mp h).2 hr hs).imp_right Or.symm

theorem canonAsc_iff (tl : List Span) :
    CanonAsc tl ↔ (∀ s ∈ tl, s.1 ≤ s.2) ∧ tl.Pairwise (fun s r => s.2 + 1 < r.1) := by
  induction tl with
  | nil => exact iff_of_true trivial ⟨List.forall_mem_nil _, .nil⟩
  | cons s rest ih =>
    cases rest with
    | nil => simp only [CanonAsc, List.forall_mem_singleton, List.pairwise_singleton, and_true]
    | cons r rest' =>
      simp only [CanonAsc, ih, List.pairwise_cons, List.forall_mem_cons]
      constructor
      · rintro ⟨h1, h2, ⟨h3, h4⟩, h5, h6⟩
        -- as in `canon_iff`
        refine ⟨⟨h1, h3, h4⟩, ⟨h2, fun q hq => ?_⟩, h5, h6⟩
        have := h5 q hq; omega
      · rintro ⟨⟨h1, h3, h4⟩, ⟨h2, _⟩, h5, h6⟩
        exact ⟨h1, h2, ⟨h3, h4⟩, h5, h6⟩

theorem CanonAsc.all_le {tl : List Span} (h : CanonAsc tl) : ∀ s ∈ tl, s.1 ≤ s.2 := ((canonAsc_iff tl).mp h).1

theorem CanonAsc.pairwise {tl : List Span} (h : CanonAsc tl) : tl.Pairwise (fun s r => s.2 + 1 < r.1) :=
  ((canonAsc_iff tl).mp h).2

theorem Canon.reverse {tl : List Span} (h : Canon tl) : CanonAsc tl.reverse :=
  (canonAsc_iff _).mpr ⟨fun s hs => h.all_le s (List.mem_reverse.mp hs),
    List.pairwise_reverse.mpr ((canon_iff tl).mp h).2⟩

theorem memTl_cons (s : Span) (tl : List Span) (x : Int) :
    memTl (s :: tl) x ↔ (s.1 ≤ x ∧ x ≤ s.2) ∨ memTl tl x := by
  simp only [memTl, List.mem_cons, or_and_right, exists_or, exists_eq_left]

theorem memTl_nil (x : Int) : ¬ memTl [] x := by
  rintro ⟨r, hr, _⟩; cases hr

theorem memTl_reverse (tl : List Span) (x : Int) : memTl tl.reverse x ↔ memTl tl x := by
  simp only [memTl, List.mem_reverse]

theorem Canon.start_iff {tl : List Span} (h : Canon tl) (x : Int) :
    (∃ s ∈ tl, s.1 = x) ↔ (memTl tl x ∧ ¬ memTl tl (x - 1)) := by
  constructor
  · rintro ⟨s, hs, rfl⟩
    have hle := h.all_le s hs
    refine ⟨⟨s, hs, Int.le_refl _, hle⟩, ?_⟩
    rintro ⟨r, hr, h1, h2⟩
    rcases h.sep hr hs with rfl | hsep | hsep
    · exact Int.lt_irrefl _ (Int.lt_of_le_sub_one h1)
    · exact Int.lt_irrefl _ (Int.lt_of_lt_of_le hsep (Int.le_add_of_sub_right_le h2))
    · omega
  · rintro ⟨⟨s, hs, h1, h2⟩, hn⟩
    exact ⟨s, hs, Int.le_antisymm h1 (Int.not_lt.mp fun hlt =>
      hn ⟨s, hs, Int.le_sub_one_of_lt hlt, Int.le_of_lt (Int.sub_one_lt_of_le h2)⟩)⟩

theorem Canon.end_succ {tl : List Span} (h : Canon tl) {s : Span} (hs : s ∈ tl) :
    memTl tl s.2 ∧ ¬ memTl tl (s.2 + 1) := by
  have hle := h.all_le s hs
  refine ⟨⟨s, hs, hle, Int.le_refl _⟩, ?_⟩
  rintro ⟨r, hr, h1, h2⟩
  rcases h.sep hr hs with rfl | hsep | hsep
  · exact Int.lt_irrefl _ h2
  · omega
  · exact Int.lt_irrefl _ (Int.lt_of_lt_of_le hsep h1)

theorem Canon.le_head_end {s : Span} {tl : List Span} (h : Canon (s :: tl)) {y : Int} (hy : memTl (s :: tl) y) :
    y ≤ s.2 := by
  obtain ⟨r, hr, _, h2⟩ := hy
  rcases List.mem_cons.mp hr with rfl | hr'
  · exact h2
  · have := h.below r hr'
    have := h.head_le
    omega

theorem any_spanMem_iff (tl : List Span) (x : Int) :
    tl.any (fun s => spanMem s x) = true ↔ memTl tl x := by
  simp only [memTl, spanMem, List.any_eq_true, Bool.and_eq_true, decide_eq_true_eq]

theorem Canon.getLast_le {tl : List Span} (h : Canon tl) {f : Span} (hf : tl.getLast? = some f) :
    ∀ r ∈ tl, f.1 ≤ r.1 := by
  obtain ⟨ys, rfl⟩ := List.getLast?_eq_some_iff.mp hf
  obtain ⟨hle, hp⟩ := (canon_iff _).mp h
  intro r hr
  rcases List.mem_append.mp hr with h1 | h1
  · have := (List.pairwise_append.mp hp).2.2 r h1 f List.mem_cons_self
    -- `f.1 ≤ f.2 < f.2 + 1 < r.1`
    exact Int.le_of_lt (Int.lt_of_le_of_lt (hle f (List.mem_append_right _ List.mem_cons_self))
      (Int.lt_trans (Int.lt_succ _) this))
  · rw [List.mem_singleton.mp h1]; exact Int.le_refl _

theorem presenceTest_iff (g : Graph) (hr : g.removal = true) (tl : List Span) (hc : Canon tl) (x : Int) :
    g.presenceTest tl x = true ↔ memTl tl x := by
  cases tl with
  | nil => exact iff_of_false Bool.false_ne_true (memTl_nil x)
  | cons last rest =>
    obtain ⟨first, hgl⟩ : ∃ first, (last :: rest).getLast? = some first := ⟨_, List.getLast?_cons⟩
    simp only [Graph.presenceTest, hgl, hr, if_true]
    rw [Bool.and_eq_true, Bool.and_eq_true, any_spanMem_iff]
    -- the two bounds the code tests first hold of every member: the oldest run starts first, the latest ends last
    exact ⟨And.right, fun ⟨r, hrm, hx⟩ => ⟨⟨decide_eq_true (Int.le_trans (hc.getLast_le hgl r hrm) hx.1),
      decide_eq_true (hc.le_head_end ⟨r, hrm, hx⟩)⟩, r, hrm, hx⟩⟩

end Dynetx
