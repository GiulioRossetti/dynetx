import DynetxModel
/-
  The loop every bulk operation and every reader of the model runs: apply `step` to one row after the other and stop at
  the first error.  `foldExit_unique` recognises an instance from its two equations, without an induction of its own; a
  text reader first classifies each line (`Line`: skipped, refused, a row) and runs `lineStep`.
-/
namespace Dynetx

/-- with an error comes the state the failing step returned -/
def foldExit {ρ : Type} (step : Graph → ρ → Graph × Option Err) : Graph → List ρ → Graph × Option Err
  | g, [] => (g, none)
  | g, r :: rest =>
    match step g r with
    | (g', none) => foldExit step g' rest
    | (g', some e) => (g', some e)

section
variable {α β ρ : Type} {step : Graph → ρ → Graph × Option Err}

theorem foldExit_unique {f : α → ρ} {go : Graph → List α → Graph × Option Err}
    (hnil : ∀ g, go g [] = (g, none))
    (hcons : ∀ g a rest, go g (a :: rest) =
      match step g (f a) with
      | (g', none) => go g' rest
      | (g', some e) => (g', some e))
    (g : Graph) (l : List α) : go g l = foldExit step g (l.map f) := by
  induction l generalizing g with
  | nil => exact hnil g
  | cons a rest ih =>
    rw [hcons, List.map_cons, foldExit]
    rcases step g (f a) with ⟨g', _ | e⟩
    · exact ih g'
    · rfl

theorem foldExit_map (f : α → ρ) (g : Graph) (l : List α) :
    foldExit step g (l.map f) = foldExit (fun g a => step g (f a)) g l :=
  (foldExit_unique (fun _ => rfl) (fun _ _ _ => rfl) g l).symm

theorem foldExit_hom {ρ' : Type} {step' : Graph → ρ' → Graph × Option Err} (T : Graph → Graph) (f : ρ → ρ')
    (h : ∀ g r, step' (T g) (f r) = (T (step g r).1, (step g r).2)) (g : Graph) (l : List ρ) :
    foldExit step' (T g) (l.map f) = (T (foldExit step g l).1, (foldExit step g l).2) := by
  induction l generalizing g with
  | nil => rfl
  | cons r rest ih =>
    simp only [List.map_cons, foldExit, h]
    rcases step g r with ⟨g', _ | e⟩
    · exact ih g'
    · rfl

theorem foldExit_append {g H : Graph} {l1 : List ρ} (l2 : List ρ) (h : foldExit step g l1 = (H, none)) :
    foldExit step g (l1 ++ l2) = foldExit step H l2 := by
  induction l1 generalizing g with
  | nil => cases h; rfl
  | cons r rest ih =>
    rw [List.cons_append, foldExit]
    rw [foldExit] at h
    revert h
    rcases step g r with ⟨g', _ | e⟩
    · exact fun h => ih h
    · exact nofun

theorem foldExit_inv_mem {P : Graph → Prop} {g : Graph} (l : List ρ) (h : P g)
    (hstep : ∀ g, P g → ∀ r ∈ l, P (step g r).1) : P (foldExit step g l).1 := by
  induction l generalizing g with
  | nil => exact h
  | cons r rest ih =>
    have h1 := hstep g h r List.mem_cons_self
    have hstep' := fun g h r hr => hstep g h r (List.mem_cons_of_mem _ hr)
    rw [foldExit]
    revert h1
    rcases step g r with ⟨g', _ | e⟩
    · exact fun h1 => ih h1 hstep'
    · exact id

theorem foldExit_sim {I : Graph → List ρ → Prop} {S : List ρ}
    (hstep : ∀ g pre r post, S = pre ++ r :: post → I g pre → ∃ H, step g r = (H, none) ∧ I H (pre ++ [r])) :
    ∀ post pre g, S = pre ++ post → I g pre → ∃ H, foldExit step g post = (H, none) ∧ I H S := by
  intro post
  induction post with
  | nil => intro pre g hS inv; rw [List.append_nil] at hS; subst hS; exact ⟨g, rfl, inv⟩
  | cons r post ih =>
    intro pre g hS inv
    obtain ⟨g', hrow, inv'⟩ := hstep g pre r post hS inv
    obtain ⟨H, hH, invH⟩ := ih (pre ++ [r]) g' (hS.trans (List.append_cons ..)) inv'
    exact ⟨H, by rw [foldExit, hrow]; exact hH, invH⟩

inductive Line (ρ : Type) where
  | skip
  | stop (e : Err)
  | row (r : ρ)

def lineStep (step : Graph → ρ → Graph × Option Err) (g : Graph) : Line ρ → Graph × Option Err
  | .skip => (g, none)
  | .stop e => (g, some e)
  | .row r => step g r

theorem foldExit_written {cls : α → Line ρ} {line : β → α} {r : β → ρ} (h : ∀ b, cls (line b) = .row (r b))
    (g : Graph) (l : List β) :
    foldExit (lineStep step) g ((l.map line).map cls) = foldExit step g (l.map r) := by
  have : (l.map line).map cls = (l.map r).map .row := by
    rw [List.map_map, List.map_map]; exact List.map_congr_left fun b _ => h b
  rw [this, foldExit_map]; rfl

end

/-- a row of `addMany`, `(u, v, t, e)`: the arguments of one `add_interaction` call that has a timestamp -/
abbrev Call4 := Node × Node × Int × Option Int

def addRow (g : Graph) (r : Call4) : Graph × Option Err :=
  g.addInteraction r.1 r.2.1 (some r.2.2.1) r.2.2.2

theorem addMany_eq (g : Graph) (rows : List Call4) : g.addMany rows = foldExit addRow g rows := by
  simpa using foldExit_unique (step := addRow) (f := id) (go := Graph.addMany) (fun _ => rfl) (fun _ _ _ => rfl) g rows

theorem addFromGo_eq (g : Graph) (es : List (Node × Node)) (t e : Option Int) :
    g.addFromGo es t e = foldExit (fun g p => g.addInteraction p.1 p.2 t e) g es := by
  simpa using foldExit_unique (step := fun g (p : Node × Node) => g.addInteraction p.1 p.2 t e) (f := id)
    (go := fun g es => g.addFromGo es t e) (fun _ => rfl) (fun _ _ _ => rfl) g es

theorem replayRows_eq (g : Graph) (rows : List Ev) : g.replayRows rows = foldExit Graph.replayRow g rows := by
  simpa using foldExit_unique (step := Graph.replayRow) (f := id) (go := Graph.replayRows) (fun _ => rfl)
    (fun _ _ _ => rfl) g rows

end Dynetx
