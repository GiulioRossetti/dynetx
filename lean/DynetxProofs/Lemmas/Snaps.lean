import DynetxProofs.Lemmas.Timeline
namespace Dynetx

theorem mem_irange (lo hi x : Int) : x ∈ irange lo hi ↔ lo ≤ x ∧ x ≤ hi := by
  simp only [irange, List.mem_map, List.mem_range, Int.lt_toNat, Int.ofNat_eq_natCast]
  constructor
  · rintro ⟨i, hi', rfl⟩
    exact ⟨Int.le_add_of_nonneg_right (Int.natCast_nonneg i), Int.le_of_lt_add_one (Int.add_lt_of_lt_sub_left hi')⟩
  · intro h
    -- `x - lo` as a natural number first: `omega` on a goal with `toNat` is several times slower to check
    obtain ⟨n, hn⟩ := Int.eq_ofNat_of_zero_le (Int.sub_nonneg_of_le h.1)
    exact ⟨n, by omega⟩

theorem irange_eq_nil {lo hi : Int} (h : hi < lo) : irange lo hi = [] := by
  unfold irange; rw [Int.toNat_eq_zero.mpr (Int.sub_nonpos_of_le h)]; rfl

theorem irange_single (t : Int) : irange t t = [t] := by
  unfold irange
  rw [Int.add_comm, Int.add_sub_cancel]
  exact congrArg (· :: []) (Int.add_zero t)

theorem irange_sorted (lo hi : Int) : (irange lo hi).Pairwise (· < ·) := by
  unfold irange
  rw [List.pairwise_map]
  exact List.pairwise_lt_range.imp fun hab => Int.add_lt_add_left (Int.ofNat_lt.mpr hab) lo

theorem irange_nodup (lo hi : Int) : (irange lo hi).Nodup :=
  (irange_sorted lo hi).imp fun h => Int.ne_of_lt h

theorem irange_succ {a b : Int} (h : a ≤ b + 1) : irange a (b + 1) = irange a b ++ [b + 1] := by
  obtain ⟨n, hn⟩ := Int.eq_ofNat_of_zero_le (Int.sub_nonneg_of_le h)
  unfold irange
  -- the lengths are `n + 1` and `n`, the new element is `a + n`
  rw [Int.add_comm (b + 1) 1, Int.add_sub_assoc, hn, Int.add_comm 1, Int.toNat_natCast_add_one, Int.toNat_natCast,
    List.range_succ, List.map_append, List.map_singleton, Int.sub_eq_iff_eq_add'.mp hn]
  rfl

theorem instants_cons (s : Span) (tl : List Span) : instants (s :: tl) = irange s.1 s.2 ++ instants tl := by
  simp [instants]

theorem mem_instants (tl : List Span) (x : Int) : x ∈ instants tl ↔ memTl tl x := by
  unfold instants memTl
  simp only [List.mem_flatMap, mem_irange]

theorem instants_sorted {tl : List Span} (h : CanonAsc tl) : (instants tl).Pairwise (· < ·) := by
  unfold instants
  rw [List.pairwise_flatMap]
  refine ⟨fun s _ => irange_sorted _ _, h.pairwise.imp ?_⟩
  intro s r hsr x hx y hy
  rw [mem_irange] at hx hy
  omega

theorem instants_nodup {tl : List Span} (hc : Canon tl) : (instants tl).Nodup :=
  -- the instants of the reversed timeline are strictly sorted, and reversing the runs only permutes the instants
  ((List.reverse_perm tl).flatMap_right _).nodup_iff.mp ((instants_sorted hc.reverse).imp Int.ne_of_lt)

/-- `d[t] = d.get(t, 0) + n` on an insertion-ordered dictionary: `bump` (`n = 2`, the snapshot counters) and
    `histAdd` (`n = 1`, the histograms) -/
def bumpBy (n : Nat) : List (Int × Nat) → Int → List (Int × Nat)
  | [], t => [(t, n)]
  | (k, c) :: rest, t => if k = t then (k, c + n) :: rest else (k, c) :: bumpBy n rest t

theorem lookupSnap_cons (k : Int) (c : Nat) (rest : List (Int × Nat)) (x : Int) :
    lookupSnap ((k, c) :: rest) x = if k = x then c else lookupSnap rest x := by
  simp only [lookupSnap, beq_iff_eq]

theorem bump_eq (s : List (Int × Nat)) (t : Int) : bump s t = bumpBy 2 s t := by
  induction s with
  | nil => rfl
  | cons p rest ih => simp only [bump, bumpBy, ih, beq_iff_eq]

theorem histAdd_eq (h : List (Int × Nat)) (k : Int) : histAdd h k = bumpBy 1 h k := by
  induction h with
  | nil => rfl
  | cons p rest ih => simp only [histAdd, bumpBy, ih, beq_iff_eq]

theorem lookupSnap_bumpBy (n : Nat) (s : List (Int × Nat)) (t x : Int) :
    lookupSnap (bumpBy n s t) x = lookupSnap s x + (if x = t then n else 0) := by
  induction s with
  | nil => simp only [bumpBy, lookupSnap_cons, lookupSnap, Nat.zero_add, @eq_comm _ t x]
  | cons p rest ih =>
    obtain ⟨k, c⟩ := p
    rw [bumpBy]
    by_cases hk : k = t
    · subst hk
      rw [if_pos rfl, lookupSnap_cons, lookupSnap_cons]
      by_cases hx : k = x
      · rw [if_pos hx, if_pos hx, if_pos hx.symm]
      · rw [if_neg hx, if_neg hx, if_neg (Ne.symm hx)]; rfl
    · rw [if_neg hk, lookupSnap_cons, lookupSnap_cons, ih]
      by_cases hx : k = x
      · rw [if_pos hx, if_pos hx, if_neg (hx ▸ hk)]; rfl
      · rw [if_neg hx, if_neg hx]

theorem lookupSnap_bumpAll (s : List (Int × Nat)) (ts : List Int) (x : Int) :
    lookupSnap (bumpAll s ts) x = lookupSnap s x + 2 * ts.count x := by
  unfold bumpAll
  induction ts generalizing s with
  | nil => rfl
  | cons t rest ih =>
    rw [List.foldl_cons, ih, bump_eq, lookupSnap_bumpBy]
    by_cases h : x = t
    · subst h; rw [if_pos rfl, List.count_cons_self, Nat.mul_add_one, Nat.add_right_comm, Nat.add_assoc]
    · rw [if_neg h, List.count_cons_of_ne (Ne.symm h)]; rfl

theorem lookupSnap_bumpRange (g : Graph) (lo hi x : Int) :
    lookupSnap (g.bumpRange lo hi).snaps x = lookupSnap g.snaps x + (if lo ≤ x ∧ x ≤ hi then 2 else 0) := by
  show lookupSnap (bumpAll g.snaps (irange lo hi)) x = _
  rw [lookupSnap_bumpAll, (irange_nodup lo hi).count, apply_ite (2 * ·)]
  simp only [mem_irange]

structure SnapsOk (s : List (Int × Nat)) : Prop where
  nodup : (s.map (·.1)).Nodup
  pos : ∀ p ∈ s, 0 < p.2

theorem snapsOk_empty : SnapsOk ([] : List (Int × Nat)) := ⟨List.nodup_nil, List.forall_mem_nil _⟩

theorem bumpBy_keys (n : Nat) (s : List (Int × Nat)) (t k : Int) :
    k ∈ (bumpBy n s t).map (·.1) ↔ k ∈ s.map (·.1) ∨ k = t := by
  induction s with
  | nil => simp [bumpBy]
  | cons p rest ih =>
    obtain ⟨k0, c⟩ := p
    rw [bumpBy]
    by_cases hk : k0 = t
    · rw [if_pos hk, List.map_cons, List.map_cons, List.mem_cons, hk]
      exact ⟨Or.inl, fun h => h.elim id Or.inl⟩
    · rw [if_neg hk, List.map_cons, List.map_cons, List.mem_cons, List.mem_cons, ih, or_assoc]

theorem bumpBy_nodup (n : Nat) (s : List (Int × Nat)) (t : Int) (h : (s.map (·.1)).Nodup) :
    ((bumpBy n s t).map (·.1)).Nodup := by
  induction s with
  | nil => simp [bumpBy]
  | cons p rest ih =>
    obtain ⟨k0, c⟩ := p
    rw [List.map_cons, List.nodup_cons] at h
    rw [bumpBy]
    by_cases hk : k0 = t
    · rw [if_pos hk]; exact List.nodup_cons.mpr h
    · rw [if_neg hk, List.map_cons, List.nodup_cons, bumpBy_keys]
      exact ⟨fun hm => hm.elim h.1 hk, ih h.2⟩

theorem bumpBy_pos {n : Nat} (hn : 0 < n) (s : List (Int × Nat)) (t : Int) (h : ∀ p ∈ s, 0 < p.2) :
    ∀ p ∈ bumpBy n s t, 0 < p.2 := by
  induction s with
  | nil => exact List.forall_mem_singleton.mpr hn
  | cons q rest ih =>
    rw [List.forall_mem_cons] at h
    unfold bumpBy
    split <;> rw [List.forall_mem_cons]
    · exact ⟨Nat.add_pos_right _ hn, h.2⟩
    · exact ⟨h.1, ih h.2⟩

theorem bumpAll_ok (s : List (Int × Nat)) (ts : List Int) (h : SnapsOk s) : SnapsOk (bumpAll s ts) := by
  unfold bumpAll
  induction ts generalizing s with
  | nil => exact h
  | cons t rest ih =>
    refine ih _ ?_
    rw [bump_eq]
    exact ⟨bumpBy_nodup 2 s t h.nodup, bumpBy_pos (by decide) s t h.pos⟩

theorem lookupSnap_pos_iff {s : List (Int × Nat)} (h : SnapsOk s) (x : Int) :
    0 < lookupSnap s x ↔ x ∈ s.map (·.1) := by
  induction s with
  | nil => exact iff_of_false (Nat.lt_irrefl 0) List.not_mem_nil
  | cons p rest ih =>
    obtain ⟨k, c⟩ := p
    rw [lookupSnap_cons, List.map_cons, List.mem_cons]
    by_cases hk : k = x
    · rw [if_pos hk]; exact iff_of_true (h.pos _ List.mem_cons_self) (Or.inl hk.symm)
    · rw [if_neg hk, ih ⟨(List.nodup_cons.mp h.nodup).2, fun p hp => h.pos p (List.mem_cons_of_mem _ hp)⟩]
      exact (or_iff_right (Ne.symm hk)).symm
end Dynetx
