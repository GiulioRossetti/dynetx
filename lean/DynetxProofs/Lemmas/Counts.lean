import DynetxProofs.Lemmas.Core
import DynetxProofs.Lemmas.Folds
import DynetxProofs.C18
namespace Dynetx

/-- `memTl` as a Boolean (`presentTl_iff`), for `countP` -/
def presentTl (tl : List Span) (x : Int) : Bool := tl.any (fun s => spanMem s x)

theorem presentTl_iff (tl : List Span) (x : Int) : presentTl tl x = true ↔ memTl tl x :=
  any_spanMem_iff tl x

def Graph.countAt (g : Graph) (x : Int) : Nat := g.edges.countP (fun e => presentTl e.tl x)

/-- the invariant behind `interactions_per_snapshots`; `lookupSnap` is 0 when `x` is no key -/
structure SnapInv (g : Graph) : Prop where
  ok : SnapsOk g.snaps
  count : ∀ x, lookupSnap g.snaps x = 2 * g.countAt x

/-- the map of `mapTl` on a bare list, for the two parts of `g.edges` around the entry of the pair -/
theorem mapTl_nomatch {d : Bool} {u v : Node} {tl' : List Span} {l : List Edge}
    (h : ∀ f ∈ l, sameKey d f.u f.v u v = false) :
    l.map (fun e => if sameKey d e.u e.v u v then { e with tl := tl' } else e) = l :=
  (List.map_congr_left fun e he => by rw [h e he]; rfl).trans (List.map_id l)

/-- the list splits at the edge `findEdge` returns: no edge before it has the key (that is what `find?` says) and none
    after it (the keys are distinct) -/
theorem countP_mapTl {g : Graph} (hp : q1_Keys g) {u v : Node} {ed : Edge} (hf : g.findEdge u v = some ed)
    (tl' : List Span) (x : Int) :
    (mapTl g u v tl').countP (fun e => presentTl e.tl x) + b2n (presentTl ed.tl x)
      = g.edges.countP (fun e => presentTl e.tl x) + b2n (presentTl tl' x) := by
  obtain ⟨hk, l1, l2, he, h1⟩ := List.find?_eq_some_iff_append.mp hf
  unfold q1_Keys at hp
  rw [he, List.pairwise_append] at hp
  have h2 : ∀ f ∈ l2, sameKey g.directed f.u f.v u v = false := fun f hf => Bool.eq_false_iff.mpr fun hfk =>
    Bool.eq_false_iff.mp ((List.pairwise_cons.mp hp.2.1).1 f hf) (sameKey_trans hk (sameKey_symm_of hfk))
  unfold mapTl
  rw [he, List.map_append, List.map_cons, mapTl_nomatch (fun f hf => by simpa using h1 f hf), mapTl_nomatch h2, if_pos hk]
  simp only [List.countP_append, List.countP_cons]
  -- `c1 + (c2 + p) + q = c1 + (c2 + q) + p`, the `if`s being `b2n`
  exact (Nat.add_assoc ..).trans ((congrArg _ (Nat.add_right_comm ..)).trans (Nat.add_assoc ..).symm)

theorem presentTl_gain {old new : List Span} {lo hi : Int}
    (hmem : ∀ x, memTl new x ↔ memTl old x ∨ (lo ≤ x ∧ x ≤ hi))
    (hfresh : ∀ x, lo ≤ x ∧ x ≤ hi → ¬ memTl old x) (x : Int) :
    b2n (presentTl new x) = b2n (presentTl old x) + (if lo ≤ x ∧ x ≤ hi then 1 else 0) := by
  by_cases hx : lo ≤ x ∧ x ≤ hi
  · have h1 : presentTl new x = true := (presentTl_iff _ _).mpr ((hmem x).mpr (Or.inr hx))
    have h2 : presentTl old x = false := Bool.eq_false_iff.mpr fun h => hfresh x hx ((presentTl_iff _ _).mp h)
    rw [h1, h2, if_pos hx]; rfl
  · have : presentTl new x = presentTl old x :=
      Bool.eq_iff_iff.mpr (by rw [presentTl_iff, presentTl_iff, hmem]; exact or_iff_left hx)
    rw [this, if_neg hx]; rfl

theorem snapInv_of_gain {g g' : Graph} (hs : SnapInv g) {lo hi : Int}
    (hsn : g'.snaps = bumpAll g.snaps (irange lo hi))
    (hcnt : ∀ x, g'.countAt x = g.countAt x + (if lo ≤ x ∧ x ≤ hi then 1 else 0)) : SnapInv g' := by
  refine ⟨by rw [hsn]; exact bumpAll_ok _ _ hs.ok, fun x => ?_⟩
  rw [hsn, hcnt]
  show lookupSnap (g.bumpRange lo hi).snaps x = _
  rw [lookupSnap_bumpRange, hs.count x, Nat.mul_add, apply_ite (2 * ·)]

theorem addInteraction_snapInv (g : Graph) (h : WF g) (hr : g.removal = true) (hs : SnapInv g) (u v : Node)
    (t e : Option Int) : SnapInv (g.addInteraction u v t e).1 := by
  refine addInteraction_span_cases g hr u v t e (P := fun r => SnapInv r.1) (fun _ => hs) fun t0 t1 hsp => ?_
  cases hf : g.findEdge u v with
  | none =>
    rw [addInteraction_new hr hsp hf]
    refine snapInv_of_gain hs (lo := t0) (hi := t1) (by rw [addNew_eq, hr]; rfl) fun x => ?_
    unfold Graph.countAt
    -- the new pair is appended with the timeline `[(t0, t1)]`: it counts at `x` exactly when `t0 ≤ x ≤ t1`
    simp only [addNew_eq, List.countP_append, List.countP_singleton, presentTl, List.any_cons, List.any_nil,
      Bool.or_false, spanMem, Bool.and_eq_true, decide_eq_true_eq]
  | some ed =>
    obtain ⟨hne, hcan⟩ := h.tl ed (findEdge_some hf).1
    obtain ⟨⟨a, b⟩, rest, htl⟩ := List.exists_cons_of_ne_nil hne
    rw [htl] at hcan
    by_cases hlt : t0 < a
    · rw [addInteraction_reject hr hsp hf htl hlt]; exact hs
    · -- the pair's timeline gains exactly the instants of the span that lie after its latest run
      have ha : a ≤ t0 := Int.not_lt.mp hlt
      obtain ⟨_, hed, hsn⟩ := addInteraction_merge h hr hsp hf htl ha
      refine snapInv_of_gain hs hsn fun x => ?_
      have hcnt := countP_mapTl h.keys hf (mergeTl a b rest t0 t1) x
      have hg : b2n (presentTl (mergeTl a b rest t0 t1) x) =
          b2n (presentTl ed.tl x) + (if max t0 (b + 1) ≤ x ∧ x ≤ t1 then 1 else 0) := by
        apply presentTl_gain
        · intro y
          rw [mergeTl_mem ha, htl]
          refine ⟨Or.rec .inl fun hy => ?_, Or.imp_right fun hy => ⟨Int.le_trans (Int.le_max_left ..) hy.1, hy.2⟩⟩
          -- of the span, what lies in the latest run `[a,b]` was there
          exact (Decidable.em (y ≤ b)).imp (fun hyb => ⟨(a, b), List.mem_cons_self, Int.le_trans ha hy.1, hyb⟩)
            fun hyb => ⟨Int.max_le.mpr ⟨hy.1, Int.not_le.mp hyb⟩, hy.2⟩
        · intro y hy hm
          -- an instant from `b + 1` on lies after the end `b` of the latest run, so in no run
          exact Int.not_le.mpr (Int.lt_of_lt_of_le (Int.lt_succ b) (Int.le_trans (Int.le_max_right ..) hy.1))
            (hcan.le_head_end (htl ▸ hm))
      rw [hg, ← Nat.add_assoc, Nat.add_right_comm] at hcnt
      unfold Graph.countAt
      rw [hed]; exact Nat.add_right_cancel hcnt

theorem WF.present_edge_iff {g : Graph} (h : WF g) (hr : g.removal = true) {e : Edge} (he : e ∈ g.edges) (x : Int) :
    presentTl e.tl x = true ↔ g.hasInteraction e.u e.v (some x) = true := by
  rw [presentTl_iff, h.hasInteraction_iff hr]
  constructor
  · intro hm; exact ⟨e, he, sameKey_refl _ _ _, hm⟩
  · rintro ⟨e', he', hk, hm⟩
    rw [edge_unique h.keys he he' (sameKey_refl _ _ _) hk]; exact hm

theorem countAt_pos_iff {g : Graph} (h : WF g) (hr : g.removal = true) (x : Int) :
    0 < g.countAt x ↔ ∃ a b, g.hasInteraction a b (some x) = true := by
  unfold Graph.countAt
  rw [List.countP_pos_iff]
  constructor
  · rintro ⟨e, he, hp⟩
    exact ⟨e.u, e.v, (h.present_edge_iff hr he x).mp hp⟩
  · rintro ⟨a, b, hab⟩
    obtain ⟨e, he, _, hm⟩ := (h.hasInteraction_iff hr a b x).mp hab
    exact ⟨e, he, (presentTl_iff _ _).mpr hm⟩

theorem ids_eq_sorted (g : Graph) : g.ids = C18_sorted (g.snaps.map (·.1)) := rfl

theorem mem_ids (g : Graph) (x : Int) : x ∈ g.ids ↔ x ∈ g.snaps.map (·.1) :=
  (C18_sorted_perm _).mem_iff

theorem mem_ids_iff {g : Graph} (h : WF g) (hr : g.removal = true) (hs : SnapInv g) (x : Int) :
    x ∈ g.ids ↔ ∃ a b, g.hasInteraction a b (some x) = true := by
  rw [mem_ids, ← lookupSnap_pos_iff hs.ok, hs.count x, ← countAt_pos_iff h hr]
  exact Nat.mul_pos_iff_of_pos_left Nat.two_pos

theorem ids_strict_of_snapsOk {g : Graph} (h : SnapsOk g.snaps) : g.ids.Pairwise (· < ·) := by
  rw [ids_eq_sorted]; exact C18_sorted_pairwise_lt _ h.nodup

/-- registered under C12: the step behind `ids_strict_history`, which discharges the strict-ids hypothesis of `C12_sound` -/
theorem addInteraction_snapsOk (g : Graph) (u v : Node) (t e : Option Int) (h : SnapsOk g.snaps) :
    SnapsOk (g.addInteraction u v t e).1.snaps := by
  obtain ⟨ts, hts⟩ := (addInteraction_frame g u v t e).snaps
  rw [hts]; exact bumpAll_ok _ _ h

theorem run_snapsOk (ops : List Op) (g : Graph) (h : SnapsOk g.snaps) : SnapsOk (g.run ops).1.snaps :=
  run_induction (P := fun g => SnapsOk g.snaps) ops h fun g h _ _ _ _ => addInteraction_snapsOk g _ _ _ _ h

theorem ids_length (g : Graph) : g.ids.length = g.snaps.length := by
  rw [ids_eq_sorted]; unfold C18_sorted; simp

end Dynetx
