import DynetxProofs.Lemmas.WF
import DynetxProofs.Lemmas.Snaps
namespace Dynetx

theorem WF.congr {g g' : Graph} (h : WF g) (he : g'.edges = g.edges) (hd : g'.directed = g.directed) : WF g' :=
  ⟨by rw [he]; exact h.tl, by rw [he, hd]; exact h.keys⟩

theorem WF.addInteraction {g : Graph} (h : WF g) (u v : Node) (t e : Option Int) :
    WF (g.addInteraction u v t e).1 := by
  -- the distinct keys are kept by the frame alone; the timelines need the branch
  refine ⟨?_, addInteraction_keys h.keys u v t e⟩
  have can : ∀ {ed : Edge} {a b : Int} {rest : List Span}, g.findEdge u v = some ed → ed.tl = (a, b) :: rest →
      Canon ((a, b) :: rest) := fun hf htl => htl ▸ (h.tl _ (findEdge_some hf).1).2
  -- the cases are numbered in the order of the definition: `addInteraction_frame` (Step.lean) lists them
  fun_cases Graph.addInteraction g u v t e
  case case3 t0 t1 hs hf =>  -- new pair
    rw [addNew_eq]
    exact List.forall_mem_append.mpr ⟨h.tl, List.forall_mem_singleton.mpr ⟨List.cons_ne_nil _ _, spanEnd_le hs⟩⟩
  case case6 =>  -- covered
    rw [addCovered_eq]; exact h.tl
  case case7 t0 _ _ ed hf a b rest htl hlt _ _ =>  -- accumulative
    have hc := can hf htl
    rw [addAccum_eq]; unfold accumTl
    split
    · exact forall_mapTl h.tl fun _ _ => ⟨List.cons_ne_nil _ _, hc.extend (Int.le_trans hc.head_le (Int.le_max_left ..))⟩
    · next hx => exact forall_mapTl h.tl fun _ _ => ⟨List.cons_ne_nil _ _, Int.le_refl t0, Int.not_le.mp hx, hc⟩
  case case8 t0 t1 hs ed hf a b rest htl hlt _ _ hx =>  -- extend
    rw [addExtend_eq]
    exact forall_mapTl h.tl fun _ _ =>
      ⟨List.cons_ne_nil _ _, (can hf htl).extend (Int.le_trans (Int.not_lt.mp hlt) (spanEnd_le hs))⟩
  case case9 t0 t1 hs ed hf a b rest htl _ _ _ hx =>  -- append
    rw [addAppend_eq]
    exact forall_mapTl h.tl fun _ _ => ⟨List.cons_ne_nil _ _, spanEnd_le hs, Int.not_le.mp hx, can hf htl⟩
  all_goals exact h.tl

theorem presence_update {g g' : Graph} (h : WF g) (hr : g.removal = true) (h' : WF g') (hr' : g'.removal = true)
    {u v : Node} {tl' : List Span}
    (htl : ∀ x y, g'.tlOf x y = if sameKey g.directed u v x y then tl' else g.tlOf x y)
    (P : Int → Prop) (hmem : ∀ x, memTl tl' x ↔ memTl (g.tlOf u v) x ∨ P x) (a b : Node) (x : Int) :
    g'.hasInteraction a b (some x) = true ↔
      g.hasInteraction a b (some x) = true ∨ (sameKey g.directed u v a b = true ∧ P x) := by
  rw [h'.hasInteraction_tlOf hr', h.hasInteraction_tlOf hr, htl]
  by_cases hk : sameKey g.directed u v a b = true
  · rw [if_pos hk, hmem, tlOf_congr g hk]; exact or_congr_right (and_iff_right hk).symm
  · rw [if_neg hk]; exact (or_iff_left fun h => hk h.1).symm

/-- an accepted call on a stored pair, the branches covered, extend and append at once.  The bumped counters start at
    `max t0 (b + 1)`: at `b + 1` when the span overlaps or touches the latest run `[a, b]`, at `t0` when it opens a new run. -/
theorem addInteraction_merge {g : Graph} (h : WF g) (hr : g.removal = true) {u v : Node} {t0 t1 : Int}
    {e : Option Int} (hs : spanEnd t0 e = some t1) {ed : Edge} {a b : Int} {rest : List Span}
    (hf : g.findEdge u v = some ed) (htl : ed.tl = (a, b) :: rest) (ha : a ≤ t0) :
    (g.addInteraction u v (some t0) e).2 = none ∧
    (g.addInteraction u v (some t0) e).1.edges = mapTl g u v (mergeTl a b rest t0 t1) ∧
    (g.addInteraction u v (some t0) e).1.snaps = bumpAll g.snaps (irange (max t0 (b + 1)) t1) := by
  have hlt : ¬ t0 < a := Int.not_lt.mpr ha
  unfold mergeTl
  by_cases hc : t1 ≤ b
  · -- covered: the timeline written is the one stored (`mapTl_self`), and no instant from `b + 1` on is `≤ t1 ≤ b`
    rw [addInteraction_covered hr hs hf htl hlt hc, if_pos hc, addCovered_eq, ← htl, mapTl_self h.keys hf,
      irange_eq_nil (Int.lt_of_le_of_lt hc (Int.lt_of_lt_of_le (Int.lt_succ b) (Int.le_max_right ..)))]
    exact ⟨rfl, rfl, rfl⟩
  · rw [if_neg hc]
    by_cases hx : t0 ≤ b + 1
    · rw [addInteraction_extend hr hs hf htl hlt hc hx, if_pos hx, Int.max_eq_right hx, addExtend_eq]
      exact ⟨rfl, rfl, rfl⟩
    · rw [addInteraction_append hr hs hf htl hlt hc hx, if_neg hx, Int.max_eq_left (Int.le_of_lt (Int.not_le.mp hx)),
        addAppend_eq]
      exact ⟨rfl, rfl, rfl⟩

/-- one `add_interaction(u, v, t0, e)` with the non-empty span `[t0, t1]` on a well-formed graph -/
structure StepSpec (g : Graph) (u v : Node) (t0 t1 : Int) (r : Graph × Option Err) : Prop where
  directed : r.1.directed = g.directed
  removal : r.1.removal = g.removal
  wf : WF r.1
  /-- the only possible exception is the documented one -/
  outcome : r.2 = none ∨ (r.2 = some .value ∧ r.1 = g)
  rejected_iff : r.2 = some .value ↔ ∃ ed a b rest, g.findEdge u v = some ed ∧ ed.tl = (a, b) :: rest ∧ t0 < a
  presence : r.2 = none → ∀ a b x, r.1.hasInteraction a b (some x) = true ↔
      g.hasInteraction a b (some x) = true ∨ (sameKey g.directed u v a b = true ∧ t0 ≤ x ∧ x ≤ t1)

theorem addInteraction_stepSpec (g : Graph) (h : WF g) (hr : g.removal = true) (u v : Node) (t0 : Int)
    (e : Option Int) (t1 : Int) (hs : spanEnd t0 e = some t1) :
    StepSpec g u v t0 t1 (g.addInteraction u v (some t0) e) := by
  have hd := addInteraction_directed g u v (some t0) e
  have hrm := addInteraction_removal g u v (some t0) e
  have hwf := h.addInteraction u v (some t0) e
  have hr' : (g.addInteraction u v (some t0) e).1.removal = true := by rw [hrm, hr]
  cases hf : g.findEdge u v with
  | none =>
    rw [addInteraction_new hr hs hf] at hd hrm hwf hr' ⊢
    exact {
      directed := hd, removal := hrm, wf := hwf, outcome := Or.inl rfl
      rejected_iff := ⟨(by intro hh; cases hh), (by rintro ⟨ed, a, b, rest, hf', _⟩; rw [hf] at hf'; cases hf')⟩
      presence := fun _ => presence_update h hr hwf hr' (tlOf_append hd (by rw [addNew_eq]) hf) _ fun x => by
        rw [tlOf_none hf, memTl_cons]; exact or_comm }
  | some ed =>
    obtain ⟨hne, hcan⟩ := h.tl ed (findEdge_some hf).1
    obtain ⟨⟨a, b⟩, rest, htl⟩ := List.exists_cons_of_ne_nil hne
    rw [htl] at hcan
    by_cases hlt : t0 < a
    · rw [addInteraction_reject hr hs hf htl hlt]
      exact ⟨rfl, rfl, h, Or.inr ⟨rfl, rfl⟩, ⟨fun _ => ⟨ed, a, b, rest, hf, htl, hlt⟩, fun _ => rfl⟩,
        by intro hh; cases hh⟩
    · have ha0 : a ≤ t0 := Int.not_lt.mp hlt
      obtain ⟨hacc, hed, _⟩ := addInteraction_merge h hr hs hf htl ha0
      refine {
        directed := hd, removal := hrm, wf := hwf, outcome := Or.inl hacc
        rejected_iff := ⟨(by rw [hacc]; intro hh; cases hh), ?_⟩
        presence := fun _ => presence_update h hr hwf hr' (tlOf_mapTl hd hed hf) _ fun x => by
          rw [tlOf_some hf, htl]
          exact mergeTl_mem ha0 x }
      rintro ⟨ed', a', b', rest', h1, h2, h3⟩
      rw [hf] at h1; cases h1; rw [htl] at h2; cases h2; exact absurd h3 hlt

theorem StepSpec.accepted {g : Graph} {u v : Node} {t0 t1 : Int} {r : Graph × Option Err}
    (sp : StepSpec g u v t0 t1 r)
    (h : ∀ ed a b rest, g.findEdge u v = some ed → ed.tl = (a, b) :: rest → a ≤ t0) : r.2 = none := by
  rcases sp.outcome with h1 | ⟨h1, _⟩
  · exact h1
  · obtain ⟨ed, a, b, rest, hf, htl, hlt⟩ := sp.rejected_iff.mp h1
    exact absurd hlt (Int.not_lt.mpr (h ed a b rest hf htl))

end Dynetx
