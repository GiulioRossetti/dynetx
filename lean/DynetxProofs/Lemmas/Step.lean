import DynetxProofs.Lemmas.Fields
namespace Dynetx

theorem effE_removal (g : Graph) (hr : g.removal = true) (e : Option Int) : g.effE e = e := by
  simp [Graph.effE, hr]

theorem spanEnd_le {t0 t1 : Int} {e : Option Int} (h : spanEnd t0 e = some t1) : t0 ≤ t1 := by
  unfold spanEnd at h
  split at h
  · split at h
    · cases h
    · next hlt => cases h; exact Int.le_sub_one_of_lt (Int.not_le.mp hlt)
  · cases h; exact Int.le_refl _

theorem spanEnd_succ {a b : Int} (h : a ≤ b) : spanEnd a (some (b + 1)) = some b := by
  simp only [spanEnd]
  rw [if_neg (Int.not_le.mpr (Int.lt_add_one_of_le h)), Int.add_sub_cancel]

theorem spanEnd_some_eq {t0 e t1 : Int} (h : spanEnd t0 (some e) = some t1) : t1 + 1 = e := by
  simp only [spanEnd] at h
  split at h
  · cases h
  · cases h; exact Int.sub_add_cancel e 1

theorem spanEnd_none_eq {t0 t1 : Int} (h : spanEnd t0 none = some t1) : t1 = t0 :=
  (Option.some.inj h).symm

theorem findEdge_some {g : Graph} {u v : Node} {ed : Edge} (h : g.findEdge u v = some ed) :
    ed ∈ g.edges ∧ sameKey g.directed ed.u ed.v u v = true := by
  unfold Graph.findEdge at h
  exact ⟨List.mem_of_find?_eq_some h, by simpa using List.find?_some h⟩

theorem findEdge_none {g : Graph} {u v : Node} (h : g.findEdge u v = none) :
    ∀ ed ∈ g.edges, sameKey g.directed ed.u ed.v u v = false := by
  unfold Graph.findEdge at h
  intro ed hed
  have := List.find?_eq_none.mp h ed hed
  simpa using this

/-- the pair table `setTl` writes -/
def mapTl (g : Graph) (u v : Node) (tl : List Span) : List Edge :=
  g.edges.map (fun e' => if sameKey g.directed e'.u e'.v u v then { e' with tl := tl } else e')

/-- the new timeline of an existing pair whose latest run is `[a,b]`, for an accepted span `[t0,t1]`
    (`a ≤ t0 ≤ t1`): covered / extend / new run -/
def mergeTl (a b : Int) (rest : List Span) (t0 t1 : Int) : List Span :=
  if t1 ≤ b then (a, b) :: rest else if t0 ≤ b + 1 then (a, t1) :: rest else (t0, t1) :: (a, b) :: rest

theorem mergeTl_mem {a b : Int} {rest : List Span} {t0 t1 : Int} (h0 : a ≤ t0) (x : Int) :
    memTl (mergeTl a b rest t0 t1) x ↔ memTl ((a, b) :: rest) x ∨ (t0 ≤ x ∧ x ≤ t1) := by
  unfold mergeTl
  by_cases hc : t1 ≤ b
  · -- covered: the span lies in the latest run
    rw [if_pos hc]
    exact (or_iff_left_of_imp fun hx => ⟨(a, b), List.mem_cons_self, Int.le_trans h0 hx.1, Int.le_trans hx.2 hc⟩).symm
  · rw [if_neg hc]
    by_cases hx : t0 ≤ b + 1
    · -- extend: `[a, t1]` is `[a, b]` and `[t0, t1]` together, as `a ≤ t0 ≤ b + 1` and `b < t1`
      rw [if_pos hx, memTl_cons, memTl_cons, or_right_comm]
      -- left to right by whether `x ≤ b`; right to left each of the two intervals lies in `[a, t1]`
      exact or_congr_left
        ⟨fun ⟨h1, h2⟩ => (Decidable.em (x ≤ b)).imp (⟨h1, ·⟩) fun hb => ⟨Int.le_trans hx (Int.not_le.mp hb), h2⟩,
         fun h => h.elim (fun ⟨h1, h2⟩ => ⟨h1, Int.le_trans h2 (Int.le_of_lt (Int.not_le.mp hc))⟩)
           fun ⟨h1, h2⟩ => ⟨Int.le_trans h0 h1, h2⟩⟩
    · rw [if_neg hx]; exact (memTl_cons ..).trans or_comm

/-- the timeline an accepted accumulative add writes over `(a, b) :: rest` -/
def accumTl (t0 a b : Int) (rest : List Span) : List Span :=
  if t0 ≤ b + 1 then (a, max b t0) :: rest else (t0, t0) :: (a, b) :: rest

theorem addNew_eq (g : Graph) (u v : Node) (t0 t1 : Int) (eR : Option Int) :
    g.addNew u v t0 t1 eR =
      { g with nodes := ensureNode (ensureNode g.nodes u) v
               edges := g.edges ++ [({ u := u, v := v, tl := [(t0, t1)] } : Edge)]
               events := optMinus g.directed (addEv g.directed g.events t0 u v true) eR u v
               snaps := bumpAll g.snaps (irange t0 (if g.removal then t1 else t0)) } := by
  obtain ⟨d, r, ga, ns, es, evs, ss⟩ := g
  unfold Graph.addNew
  simp only [addEvent_eq, optAddMinus_eq]
  cases r <;> rfl

theorem addCovered_eq (g : Graph) (u v : Node) (t1 b : Int) (eR : Option Int) :
    g.addCovered u v t1 b eR =
      { g with events := if t1 = b then optMinus g.directed g.events eR u v else g.events } := by
  unfold Graph.addCovered
  by_cases h : t1 = b
  · rw [if_pos (beq_iff_eq.mpr h), if_pos h, optAddMinus_eq]
  · rw [if_neg (mt beq_iff_eq.mp h), if_neg h]

theorem addAccum_eq (g : Graph) (u v : Node) (t0 a b : Int) (rest : List Span) :
    g.addAccum u v t0 a b rest =
      { g with nodes := ensureNode (ensureNode g.nodes u) v
               edges := mapTl g u v (accumTl t0 a b rest)
               snaps := bumpAll g.snaps (irange t0 t0) } := by
  obtain ⟨d, r, ga, ns, es, evs, ss⟩ := g
  unfold Graph.addAccum accumTl
  split <;> rfl

theorem addExtend_eq (g : Graph) (u v : Node) (t0 t1 a b : Int) (rest : List Span) (eR : Option Int) :
    g.addExtend u v t0 t1 a b rest eR =
      { g with nodes := ensureNode (ensureNode g.nodes u) v
               edges := mapTl g u v ((a, t1) :: rest)
               events :=
                 let V := dropEv g.directed g.events (b + 1) u v false
                 match eR with
                 | some e => addEv g.directed V e u v false
                 | none => if (b == a && t0 == b + 1) = true then V else addEv g.directed V (t1 + 1) u v false
               snaps := bumpAll g.snaps (irange (b + 1) t1) } := by
  -- on a record given field by field the projections reduce at once; `rfl` is much dearer on `g`
  obtain ⟨d, r, ga, ns, es, evs, ss⟩ := g
  unfold Graph.addExtend
  cases eR with
  | some e => simp only [addEvent_eq]; rfl
  | none => simp only [addEvent_eq]; cases (b == a && t0 == b + 1) <;> rfl

theorem addAppend_eq (g : Graph) (u v : Node) (t0 t1 a b : Int) (rest : List Span) (eR : Option Int) :
    g.addAppend u v t0 t1 a b rest eR =
      { g with nodes := ensureNode (ensureNode g.nodes u) v
               edges := mapTl g u v ((t0, t1) :: (a, b) :: rest)
               events := optMinus g.directed (addEv g.directed g.events t0 u v true) eR u v
               snaps := bumpAll g.snaps (irange t0 t1) } := by
  obtain ⟨d, r, ga, ns, es, evs, ss⟩ := g
  unfold Graph.addAppend
  simp only [addEvent_eq, optAddMinus_eq]
  rfl

section branches
variable {g : Graph} (hr : g.removal = true) {u v : Node} {t0 : Int} {e : Option Int} {t1 : Int}
  (hs : spanEnd t0 e = some t1)
include hr hs

theorem addInteraction_new (hf : g.findEdge u v = none) :
    g.addInteraction u v (some t0) e = (g.addNew u v t0 t1 e, none) := by
  simp only [Graph.addInteraction, effE_removal g hr, hs, hf]

theorem addInteraction_reject {ed : Edge} {a b : Int} {rest : List Span} (hf : g.findEdge u v = some ed)
    (htl : ed.tl = (a, b) :: rest) (hlt : t0 < a) :
    g.addInteraction u v (some t0) e = (g, some .value) := by
  simp only [Graph.addInteraction, effE_removal g hr, hs, hf, htl, hlt, if_true]

theorem addInteraction_covered {ed : Edge} {a b : Int} {rest : List Span} (hf : g.findEdge u v = some ed)
    (htl : ed.tl = (a, b) :: rest) (hlt : ¬ t0 < a) (hc : t1 ≤ b) :
    g.addInteraction u v (some t0) e = (g.addCovered u v t1 b e, none) := by
  simp [Graph.addInteraction, effE_removal g hr, hs, hf, htl, hlt, hr, hc]

theorem addInteraction_extend {ed : Edge} {a b : Int} {rest : List Span} (hf : g.findEdge u v = some ed)
    (htl : ed.tl = (a, b) :: rest) (hlt : ¬ t0 < a) (hc : ¬ t1 ≤ b) (hx : t0 ≤ b + 1) :
    g.addInteraction u v (some t0) e = (g.addExtend u v t0 t1 a b rest e, none) := by
  simp [Graph.addInteraction, effE_removal g hr, hs, hf, htl, hlt, hr, hc, hx]

theorem addInteraction_append {ed : Edge} {a b : Int} {rest : List Span} (hf : g.findEdge u v = some ed)
    (htl : ed.tl = (a, b) :: rest) (hlt : ¬ t0 < a) (hc : ¬ t1 ≤ b) (hx : ¬ t0 ≤ b + 1) :
    g.addInteraction u v (some t0) e = (g.addAppend u v t0 t1 a b rest e, none) := by
  simp [Graph.addInteraction, effE_removal g hr, hs, hf, htl, hlt, hr, hc, hx]

end branches

theorem addInteraction_noTime (g : Graph) (u v : Node) (e : Option Int) :
    g.addInteraction u v none e = (g, some .networkx) := rfl

theorem addInteraction_emptySpan (g : Graph) (u v : Node) (t0 : Int) (e : Option Int)
    (hs : spanEnd t0 (g.effE e) = none) : g.addInteraction u v (some t0) e = (g, none) := by
  simp only [Graph.addInteraction, hs]

theorem addInteraction_span_cases (g : Graph) (hr : g.removal = true) (u v : Node) (t e : Option Int)
    {P : Graph × Option Err → Prop} (same : ∀ o, P (g, o))
    (span : ∀ t0 t1, spanEnd t0 e = some t1 → P (g.addInteraction u v (some t0) e)) :
    P (g.addInteraction u v t e) := by
  cases t with
  | none => exact same _
  | some t0 =>
    cases hs : spanEnd t0 e with
    | none => rw [addInteraction_emptySpan g u v t0 e (by rw [effE_removal g hr, hs])]; exact same _
    | some t1 => exact span t0 t1 hs

/-- `C07_single` -/
theorem addInteraction_error_unchanged (g : Graph) (u v : Node) (t e : Option Int) (err : Err)
    (h : (g.addInteraction u v t e).2 = some err) : (g.addInteraction u v t e).1 = g := by
  revert h
  -- each case of the definition returns `none` (and `h` is absurd) or returns `g` itself
  fun_cases Graph.addInteraction g u v t e <;> intro h <;> cases h <;> rfl

/-- what one `add_interaction(u, v, ..)` can do to the state, whatever its arguments, the mode and the outcome; `shape`:
    nothing is stored, or `(u, v)` is stored as a new pair, or the stored pair `(u, v)` gets a new timeline -/
structure AddFrame (g : Graph) (u v : Node) (g' : Graph) : Prop where
  directed : g'.directed = g.directed
  removal : g'.removal = g.removal
  gattr : g'.gattr = g.gattr
  snaps : ∃ ts, g'.snaps = bumpAll g.snaps ts
  shape : (g'.nodes = g.nodes ∧ g'.edges = g.edges) ∨
    (g'.nodes = ensureNode (ensureNode g.nodes u) v ∧
      ((g.findEdge u v = none ∧ ∃ tl, g'.edges = g.edges ++ [({ u := u, v := v, tl := tl } : Edge)]) ∨
       ∃ ed tl, g.findEdge u v = some ed ∧ g'.edges = mapTl g u v tl))

theorem AddFrame.refl (g : Graph) (u v : Node) : AddFrame g u v g :=
  ⟨rfl, rfl, rfl, ⟨[], rfl⟩, Or.inl ⟨rfl, rfl⟩⟩

theorem AddFrame.nodes {g g' : Graph} {u v : Node} (f : AddFrame g u v g') :
    g'.nodes = g.nodes ∨ g'.nodes = ensureNode (ensureNode g.nodes u) v :=
  f.shape.elim (fun h => Or.inl h.1) (fun h => Or.inr h.1)

theorem addInteraction_frame (g : Graph) (u v : Node) (t e : Option Int) :
    AddFrame g u v (g.addInteraction u v t e).1 := by
  -- the cases of the definition, in its order: no `t`, empty span, new pair, stored pair without timeline, rejected,
  -- covered, accumulative, extend, append
  fun_cases Graph.addInteraction g u v t e
  case case3 hf =>
    rw [addNew_eq]; exact ⟨rfl, rfl, rfl, ⟨_, rfl⟩, Or.inr ⟨rfl, Or.inl ⟨hf, _, rfl⟩⟩⟩
  case case6 =>
    rw [addCovered_eq]; exact ⟨rfl, rfl, rfl, ⟨[], rfl⟩, Or.inl ⟨rfl, rfl⟩⟩
  case case7 ed hf _ _ _ _ _ _ _ =>
    rw [addAccum_eq]; exact ⟨rfl, rfl, rfl, ⟨_, rfl⟩, Or.inr ⟨rfl, Or.inr ⟨ed, _, hf, rfl⟩⟩⟩
  case case8 ed hf _ _ _ _ _ _ _ _ =>
    rw [addExtend_eq]; exact ⟨rfl, rfl, rfl, ⟨_, rfl⟩, Or.inr ⟨rfl, Or.inr ⟨ed, _, hf, rfl⟩⟩⟩
  case case9 ed hf _ _ _ _ _ _ _ _ =>
    rw [addAppend_eq]; exact ⟨rfl, rfl, rfl, ⟨_, rfl⟩, Or.inr ⟨rfl, Or.inr ⟨ed, _, hf, rfl⟩⟩⟩
  all_goals exact .refl g u v

@[simp] theorem addInteraction_directed (g : Graph) (u v : Node) (t e : Option Int) :
    (g.addInteraction u v t e).1.directed = g.directed := (addInteraction_frame g u v t e).directed

@[simp] theorem addInteraction_removal (g : Graph) (u v : Node) (t e : Option Int) :
    (g.addInteraction u v t e).1.removal = g.removal := (addInteraction_frame g u v t e).removal

@[simp] theorem addInteraction_gattr (g : Graph) (u v : Node) (t e : Option Int) :
    (g.addInteraction u v t e).1.gattr = g.gattr := (addInteraction_frame g u v t e).gattr

/-- no pair is stored twice: the distinct-keys half of `WF` (also part of the accumulative invariant `AccInv`) -/
abbrev q1_Keys (g : Graph) : Prop :=
  g.edges.Pairwise (fun e f => sameKey g.directed e.u e.v f.u f.v = false)

theorem keys_of_frame {g g' : Graph} {u v : Node} (h : q1_Keys g) (f : AddFrame g u v g') : q1_Keys g' := by
  unfold q1_Keys at *
  rw [f.directed]
  rcases f.shape with ⟨_, he⟩ | ⟨_, ⟨hf, tl, he⟩ | ⟨_, tl, _, he⟩⟩ <;> rw [he]
  · exact h
  · refine List.pairwise_append.mpr ⟨h, List.pairwise_singleton _ _, fun e hem f' hf' => ?_⟩
    rw [List.mem_singleton.mp hf']; exact findEdge_none hf e hem
  · unfold mapTl; rw [List.pairwise_map]
    -- the entry written keeps its end points
    exact h.imp fun hef => by simpa only [apply_ite Edge.u, apply_ite Edge.v, ite_self] using hef

theorem addInteraction_keys {g : Graph} (h : q1_Keys g) (u v : Node) (t e : Option Int) :
    q1_Keys (g.addInteraction u v t e).1 :=
  keys_of_frame h (addInteraction_frame g u v t e)

end Dynetx
