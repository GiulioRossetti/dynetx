import DynetxProofs.Lemmas.Core
import DynetxProofs.Lemmas.Folds
/-
  The event log (`time_to_edge`) of a removal-enabled graph stays in step with the stored timelines (`EvInv`).  It is read
  through its marks (`hasMark`; `__add_event` adds one, `__drop_event` removes one).  For its own pair a call opens a new
  latest run or re-opens the latest run (`KeyInvOpen`), and closes it or leaves it open.
-/
namespace Dynetx

def evKey (d : Bool) (e : Ev) (u v : Node) : Bool := sameKey d e.u e.v u v

abbrev NoRep (d : Bool) (V : List Ev) : Prop :=
  V.Pairwise (fun e f => ¬ (e.t = f.t ∧ sameKey d e.u e.v f.u f.v = true ∧ e.plus = f.plus))

def hasMark (d : Bool) (u v : Node) (V : List Ev) (t : Int) (p : Bool) : Prop :=
  ∃ ev ∈ V, ev.t = t ∧ sameKey d ev.u ev.v u v = true ∧ ev.plus = p

/-- the test of `__add_event` -/
theorem any_iff_hasMark {d : Bool} {V : List Ev} {t : Int} {u v : Node} {p : Bool} :
    V.any (fun e => e.t == t && sameKey d e.u e.v u v && e.plus == p) = true ↔ hasMark d u v V t p := by
  simp only [List.any_eq_true, Bool.and_eq_true, beq_iff_eq, and_assoc, hasMark]

theorem mem_addEv {d : Bool} {V : List Ev} {t : Int} {u v : Node} {p : Bool} {ev : Ev} :
    ev ∈ addEv d V t u v p ↔
      ev ∈ V ∨ (ev = { t := t, u := u, v := v, plus := p } ∧
        ∀ f ∈ V, ¬ (f.t = t ∧ sameKey d f.u f.v u v = true ∧ f.plus = p)) := by
  unfold addEv
  split
  · rename_i h
    obtain ⟨f, hf, hq⟩ := any_iff_hasMark.mp h
    exact (or_iff_left fun hn => hn.2 f hf hq).symm
  · rename_i h
    rw [List.mem_append, List.mem_singleton, and_iff_left]
    exact fun f hf hq => h (any_iff_hasMark.mpr ⟨f, hf, hq⟩)

theorem mem_addEvent_iff (g : Graph) (t : Int) (u v : Node) (p : Bool) (ev : Ev) :
    ev ∈ (g.addEvent t u v p).events ↔
      ev ∈ g.events ∨ (ev = { t := t, u := u, v := v, plus := p } ∧
        ∀ f ∈ g.events, ¬ (f.t = t ∧ sameKey g.directed f.u f.v u v = true ∧ f.plus = p)) := by
  rw [addEvent_eq]; exact mem_addEv

theorem mem_dropEv {d : Bool} {V : List Ev} {t : Int} {u v : Node} {p : Bool} {ev : Ev} :
    ev ∈ dropEv d V t u v p ↔
      ev ∈ V ∧ ¬ (ev.t = t ∧ sameKey d ev.u ev.v u v = true ∧ ev.plus = p) := by
  simp only [dropEv, List.mem_filter, Bool.not_eq_true', Bool.eq_false_iff, ne_eq, Bool.and_eq_true, beq_iff_eq,
    and_assoc]

theorem mem_dropEvent_iff (g : Graph) (t : Int) (u v : Node) (p : Bool) (ev : Ev) :
    ev ∈ (g.dropEvent t u v p).events ↔
      ev ∈ g.events ∧ ¬ (ev.t = t ∧ sameKey g.directed ev.u ev.v u v = true ∧ ev.plus = p) := by
  rw [dropEvent_eq]; exact mem_dropEv

theorem mem_optMinus_of_mem {d : Bool} {V : List Ev} {e : Option Int} {u v : Node} {ev : Ev}
    (h : ev ∈ V) : ev ∈ optMinus d V e u v := by
  cases e with
  | none => exact h
  | some e => exact mem_addEv.mpr (Or.inl h)

theorem mem_optMinus {d : Bool} {V : List Ev} {e : Option Int} {u v : Node} {ev : Ev}
    (h : ev ∈ optMinus d V e u v) :
    ev ∈ V ∨ ∃ e', e = some e' ∧ ev = { t := e', u := u, v := v, plus := false } := by
  cases e with
  | none => exact Or.inl h
  | some e =>
    rcases mem_addEv.mp h with h | ⟨h, _⟩
    · exact Or.inl h
    · exact Or.inr ⟨e, rfl, h⟩

theorem hasMark_congr {d : Bool} {u v x y : Node} (hk : sameKey d u v x y = true) (V : List Ev) (t : Int)
    (p : Bool) : hasMark d u v V t p ↔ hasMark d x y V t p := by
  have hk' : sameKey d x y u v = true := sameKey_symm_of hk
  constructor
  · rintro ⟨ev, hm, h1, h2, h3⟩; exact ⟨ev, hm, h1, sameKey_trans h2 hk, h3⟩
  · rintro ⟨ev, hm, h1, h2, h3⟩; exact ⟨ev, hm, h1, sameKey_trans h2 hk', h3⟩

theorem hasMark_addEv {d : Bool} {u v x y : Node} {V : List Ev} {t' t : Int} {p' p : Bool} :
    hasMark d x y (addEv d V t' u v p') t p ↔
      hasMark d x y V t p ∨ (sameKey d u v x y = true ∧ t = t' ∧ p = p') := by
  constructor
  · rintro ⟨ev, hm, h1, h2, h3⟩
    rcases mem_addEv.mp hm with hm | ⟨rfl, _⟩
    · exact Or.inl ⟨ev, hm, h1, h2, h3⟩
    · exact Or.inr ⟨h2, h1.symm, h3.symm⟩
  · rintro (⟨ev, hm, h⟩ | ⟨hk, rfl, rfl⟩)
    · exact ⟨ev, mem_addEv.mpr (Or.inl hm), h⟩
    · unfold addEv
      split
      · rename_i h; exact (hasMark_congr hk V t p).mp (any_iff_hasMark.mp h)
      · exact ⟨_, List.mem_append_right _ (List.mem_singleton.mpr rfl), rfl, hk, rfl⟩

theorem hasMark_dropEv {d : Bool} {u v x y : Node} {V : List Ev} {t' t : Int} {p' p : Bool} :
    hasMark d x y (dropEv d V t' u v p') t p ↔
      hasMark d x y V t p ∧ ¬ (sameKey d u v x y = true ∧ t = t' ∧ p = p') := by
  constructor
  · rintro ⟨ev, hm, rfl, h2, rfl⟩
    obtain ⟨hm, hn⟩ := mem_dropEv.mp hm
    exact ⟨⟨ev, hm, rfl, h2, rfl⟩, fun h => hn ⟨h.2.1, sameKey_trans h2 (sameKey_symm_of h.1), h.2.2⟩⟩
  · rintro ⟨⟨ev, hm, rfl, h2, rfl⟩, hn⟩
    exact ⟨ev, mem_dropEv.mpr ⟨hm, fun h => hn ⟨sameKey_trans (sameKey_symm_of h.2.1) h2, h.1, h.2.2⟩⟩, rfl, h2, rfl⟩

theorem addEv_fresh {d : Bool} {V : List Ev} {t : Int} {u v : Node} {p : Bool}
    (h : ∀ f ∈ V, ¬ (f.t = t ∧ sameKey d f.u f.v u v = true ∧ f.plus = p)) :
    addEv d V t u v p = V ++ [{ t := t, u := u, v := v, plus := p }] := by
  unfold addEv
  rw [if_neg fun hc => by obtain ⟨f, hf, h1⟩ := any_iff_hasMark.mp hc; exact h f hf h1]

theorem dropEv_none {d : Bool} {V : List Ev} {t : Int} {u v : Node} {p : Bool}
    (h : ∀ f ∈ V, ¬ (f.t = t ∧ sameKey d f.u f.v u v = true ∧ f.plus = p)) :
    dropEv d V t u v p = V := by
  unfold dropEv
  rw [List.filter_eq_self]
  intro f hf
  rw [Bool.not_eq_true', Bool.eq_false_iff]
  intro hc
  simp only [Bool.and_eq_true, beq_iff_eq] at hc
  exact h f hf ⟨hc.1.1, hc.1.2, hc.2⟩

theorem NoRep.add {d : Bool} {V : List Ev} (h : NoRep d V) (t : Int) (u v : Node) (p : Bool) :
    NoRep d (addEv d V t u v p) := by
  unfold addEv
  split
  · exact h
  · rename_i hn
    refine List.pairwise_append.mpr ⟨h, List.pairwise_singleton _ _, ?_⟩
    intro a ha b hb hc
    rw [List.mem_singleton] at hb; subst hb
    exact hn (any_iff_hasMark.mpr ⟨a, ha, hc.1, hc.2.1, hc.2.2⟩)

theorem NoRep.drop {d : Bool} {V : List Ev} (h : NoRep d V) (t : Int) (u v : Node) (p : Bool) :
    NoRep d (dropEv d V t u v p) := List.Pairwise.filter _ h

/-- what a call on `(u,v)` can do to the log: entries of that pair are added and dropped -/
inductive LogEdit (d : Bool) (u v : Node) (V : List Ev) : List Ev → Prop
  | refl : LogEdit d u v V V
  | add {V' : List Ev} (h : LogEdit d u v V V') (t : Int) (p : Bool) : LogEdit d u v V (addEv d V' t u v p)
  | drop {V' : List Ev} (h : LogEdit d u v V V') (t : Int) (p : Bool) : LogEdit d u v V (dropEv d V' t u v p)

theorem LogEdit.opt {d : Bool} {u v : Node} {V V' : List Ev} (h : LogEdit d u v V V') (e : Option Int) :
    LogEdit d u v V (optMinus d V' e u v) := by
  cases e with
  | none => exact h
  | some e => exact h.add e false

theorem LogEdit.noRep {d : Bool} {u v : Node} {V V' : List Ev} (h : LogEdit d u v V V') (hn : NoRep d V) :
    NoRep d V' := by
  induction h with
  | refl => exact hn
  | add _ t p ih => exact ih.add t u v p
  | drop _ t p ih => exact ih.drop t u v p

theorem LogEdit.other {d : Bool} {u v x y : Node} {V V' : List Ev} (h : LogEdit d u v V V')
    (hk : sameKey d u v x y = false) (t : Int) (p : Bool) : hasMark d x y V' t p ↔ hasMark d x y V t p := by
  induction h with
  | refl => rfl
  | add _ t' p' ih => rw [hasMark_addEv, hk, ih]; exact or_iff_left fun h => Bool.false_ne_true h.1
  | drop _ t' p' ih => rw [hasMark_dropEv, hk, ih]; exact and_iff_left fun h => Bool.false_ne_true h.1

theorem addInteraction_logEdit (g : Graph) (u v : Node) (t e : Option Int) :
    LogEdit g.directed u v g.events (g.addInteraction u v t e).1.events := by
  -- the cases are numbered in the order of the definition: `addInteraction_frame` (Step.lean) lists them
  fun_cases Graph.addInteraction g u v t e
  case case3 => simp only [addNew_eq]; exact (LogEdit.refl.add ..).opt _
  case case6 =>
    simp only [addCovered_eq]; split
    · exact LogEdit.refl.opt _
    · exact .refl
  case case7 => rw [addAccum_eq]; exact .refl
  case case8 =>
    simp only [addExtend_eq]
    have hd := LogEdit.refl.drop (d := g.directed) (u := u) (v := v) (V := g.events)
    split
    · exact (hd ..).add ..
    · split
      · exact hd ..
      · exact (hd ..).add ..
  case case9 => simp only [addAppend_eq]; exact (LogEdit.refl.add ..).opt _
  all_goals exact .refl

def mark (p : Bool) (s : Span) : Int := if p then s.1 else s.2 + 1

/-- the entry of sign `p` of the run `s` has to be in the log: always for '+'; for '-' when the run has
    three instants or more (two consecutive point adds leave a two-instant run open: `C05_D5_witness`) -/
def due (p : Bool) (s : Span) : Prop := p = true ∨ s.1 + 1 < s.2

/-- the log `V` is in step with the timeline `tl` of the pair `(u,v)` -/
structure KeyInv (d : Bool) (u v : Node) (tl : List Span) (V : List Ev) : Prop where
  sound : ∀ t p, hasMark d u v V t p → ∃ s ∈ tl, mark p s = t
  complete : ∀ s ∈ tl, ∀ p, due p s → hasMark d u v V (mark p s) p

/-- the same while the latest run `hd` is being (re)written: its closing entry is not asked for -/
structure KeyInvOpen (d : Bool) (u v : Node) (hd : Span) (rest : List Span) (V : List Ev) : Prop where
  sound : ∀ t p, hasMark d u v V t p → ∃ s ∈ hd :: rest, mark p s = t
  head : hasMark d u v V hd.1 true
  complete : ∀ s ∈ rest, ∀ p, due p s → hasMark d u v V (mark p s) p

theorem KeyInv.of_marks {d : Bool} {u v x y : Node} {tl : List Span} {V V' : List Ev} (h : KeyInv d u v tl V)
    (hm : ∀ t p, hasMark d x y V' t p ↔ hasMark d u v V t p) : KeyInv d x y tl V' :=
  ⟨fun t p hm' => h.sound t p ((hm t p).mp hm'), fun s hs p hd => (hm _ p).mpr (h.complete s hs p hd)⟩

theorem KeyInv.open {d : Bool} {u v : Node} {hd : Span} {rest : List Span} {V : List Ev}
    (h : KeyInv d u v (hd :: rest) V) : KeyInvOpen d u v hd rest V :=
  ⟨h.sound, h.complete hd List.mem_cons_self true (Or.inl rfl),
    fun s hs => h.complete s (List.mem_cons_of_mem _ hs)⟩

theorem KeyInv.openNew {d : Bool} {u v : Node} {tl : List Span} {V : List Ev} (h : KeyInv d u v tl V)
    (hd : Span) : KeyInvOpen d u v hd tl (addEv d V hd.1 u v true) := by
  refine ⟨fun t p hm => ?_, hasMark_addEv.mpr (Or.inr ⟨sameKey_refl .., rfl, rfl⟩),
    fun s hs p hdue => hasMark_addEv.mpr (Or.inl (h.complete s hs p hdue))⟩
  rcases hasMark_addEv.mp hm with hm | ⟨_, rfl, rfl⟩
  · obtain ⟨s, hs, h1⟩ := h.sound _ _ hm
    exact ⟨s, List.mem_cons_of_mem _ hs, h1⟩
  · exact ⟨hd, List.mem_cons_self, rfl⟩

/-- the latest run `[a,b]` is re-opened (it will end at `t1`): its closing entry at `b+1` goes, nothing
    else does, because every older run ends before `a - 1` -/
theorem KeyInv.openExt {d : Bool} {u v : Node} {a b : Int} {rest : List Span} {V : List Ev}
    (h : KeyInv d u v ((a, b) :: rest) V) (hc : Canon ((a, b) :: rest)) (t1 : Int) :
    KeyInvOpen d u v (a, t1) rest (dropEv d V (b + 1) u v false) := by
  refine ⟨fun t p hm => ?_, ?_, fun s hs p hdue => ?_⟩
  · obtain ⟨hm, hne⟩ := hasMark_dropEv.mp hm
    obtain ⟨s, hs, h1⟩ := h.sound t p hm
    rcases List.mem_cons.mp hs with rfl | hs
    · cases p with
      | true => exact ⟨(a, t1), List.mem_cons_self, h1⟩
      | false => exact (hne ⟨sameKey_refl .., h1.symm, rfl⟩).elim
    · exact ⟨s, List.mem_cons_of_mem _ hs, h1⟩
  · exact hasMark_dropEv.mpr ⟨h.complete (a, b) List.mem_cons_self true (Or.inl rfl), fun h => by cases h.2.2⟩
  · refine hasMark_dropEv.mpr ⟨h.complete s (List.mem_cons_of_mem _ hs) p hdue, ?_⟩
    rintro ⟨_, h1, rfl⟩
    -- `s.2 + 1 < a ≤ b < b + 1 = s.2 + 1`
    have := hc.below s hs
    have := hc.head_le
    have : s.2 + 1 = b + 1 := h1
    omega

theorem KeyInvOpen.close {d : Bool} {u v : Node} {hd : Span} {rest : List Span} {V : List Ev}
    (h : KeyInvOpen d u v hd rest V) {c : Int} (hc : hd.2 + 1 = c) :
    KeyInv d u v (hd :: rest) (addEv d V c u v false) := by
  subst hc
  refine ⟨fun t p hm => ?_, fun s hs p hdue => ?_⟩
  · rcases hasMark_addEv.mp hm with hm | ⟨_, rfl, rfl⟩
    · exact h.sound t p hm
    · exact ⟨hd, List.mem_cons_self, rfl⟩
  · rw [hasMark_addEv]
    rcases List.mem_cons.mp hs with rfl | hs
    · cases p with
      | true => exact Or.inl h.head
      | false => exact Or.inr ⟨sameKey_refl .., rfl, rfl⟩
    · exact Or.inl (h.complete s hs p hdue)

theorem KeyInvOpen.keep {d : Bool} {u v : Node} {hd : Span} {rest : List Span} {V : List Ev}
    (h : KeyInvOpen d u v hd rest V) (hshort : ¬ hd.1 + 1 < hd.2) : KeyInv d u v (hd :: rest) V := by
  refine ⟨h.sound, fun s hs p hdue => ?_⟩
  rcases List.mem_cons.mp hs with rfl | hs
  · cases p with
    | true => exact h.head
    | false => exact (hshort (hdue.resolve_left Bool.false_ne_true)).elim
  · exact h.complete s hs p hdue

/-- new pair / new run: `'+'@t0`, and `'-'@e` when a vanishing time is given -/
theorem KeyInv.push {d : Bool} {u v : Node} {tl : List Span} {V : List Ev} (h : KeyInv d u v tl V)
    {t0 t1 : Int} {e : Option Int} (hs : spanEnd t0 e = some t1) :
    KeyInv d u v ((t0, t1) :: tl) (optMinus d (addEv d V t0 u v true) e u v) := by
  have ho := h.openNew (t0, t1)
  cases e with
  | none =>
    exact ho.keep (by
      show ¬ t0 + 1 < t1
      rw [spanEnd_none_eq hs]; exact Int.not_lt.mpr (Int.le_add_one (Int.le_refl _)))
  | some e => exact ho.close (spanEnd_some_eq hs)

/-- C05, five clauses over the stored pairs; `minus_complete` cannot be had for two-instant runs (`C05_D5_witness`) -/
structure EvInv (g : Graph) : Prop where
  nodup : g.events.Pairwise (fun e f => ¬ (e.t = f.t ∧ sameKey g.directed e.u e.v f.u f.v = true ∧ e.plus = f.plus))
  plus_sound : ∀ ev ∈ g.events, ev.plus = true →
    ∃ ed ∈ g.edges, sameKey g.directed ed.u ed.v ev.u ev.v = true ∧ ∃ s ∈ ed.tl, s.1 = ev.t
  plus_complete : ∀ ed ∈ g.edges, ∀ s ∈ ed.tl,
    ∃ ev ∈ g.events, ev.plus = true ∧ ev.t = s.1 ∧ sameKey g.directed ed.u ed.v ev.u ev.v = true
  minus_sound : ∀ ev ∈ g.events, ev.plus = false →
    ∃ ed ∈ g.edges, sameKey g.directed ed.u ed.v ev.u ev.v = true ∧ ∃ s ∈ ed.tl, s.2 + 1 = ev.t
  minus_complete : ∀ ed ∈ g.edges, ∀ s ∈ ed.tl, s.1 + 1 < s.2 →
    ∃ ev ∈ g.events, ev.plus = false ∧ ev.t = s.2 + 1 ∧ sameKey g.directed ed.u ed.v ev.u ev.v = true

theorem EvInv.keyInv {g : Graph} (hev : EvInv g) (h : WF g) (x y : Node) :
    KeyInv g.directed x y (g.tlOf x y) g.events := by
  constructor
  · rintro t p ⟨ev, hm, rfl, hk, rfl⟩
    cases hp : ev.plus with
    | true =>
      obtain ⟨ed, hedm, hedk, s, hs, h1⟩ := hev.plus_sound ev hm hp
      exact ⟨s, (h.mem_tlOf x y s).mp ⟨ed, hedm, sameKey_trans hedk hk, hs⟩, h1⟩
    | false =>
      obtain ⟨ed, hedm, hedk, s, hs, h1⟩ := hev.minus_sound ev hm hp
      exact ⟨s, (h.mem_tlOf x y s).mp ⟨ed, hedm, sameKey_trans hedk hk, hs⟩, h1⟩
  · intro s hs p hdue
    obtain ⟨ed, hedm, hedk, hs'⟩ := (h.mem_tlOf x y s).mpr hs
    have key : ∀ ev : Ev, sameKey g.directed ed.u ed.v ev.u ev.v = true → sameKey g.directed ev.u ev.v x y = true :=
      fun ev h3 => sameKey_trans (sameKey_symm_of h3) hedk
    cases p with
    | true =>
      obtain ⟨ev, hm, h1, h2, h3⟩ := hev.plus_complete ed hedm s hs'
      exact ⟨ev, hm, h2, key ev h3, h1⟩
    | false =>
      obtain ⟨ev, hm, h1, h2, h3⟩ := hev.minus_complete ed hedm s hs' (hdue.resolve_left (by simp))
      exact ⟨ev, hm, h2, key ev h3, h1⟩

theorem evInv_of_keyInv {g : Graph} (h : WF g) (hn : NoRep g.directed g.events)
    (hk : ∀ x y, KeyInv g.directed x y (g.tlOf x y) g.events) : EvInv g := by
  have sound : ∀ ev ∈ g.events, ∃ ed ∈ g.edges, sameKey g.directed ed.u ed.v ev.u ev.v = true ∧
      ∃ s ∈ ed.tl, mark ev.plus s = ev.t := by
    intro ev hm
    obtain ⟨s, hs, h1⟩ := (hk ev.u ev.v).sound ev.t ev.plus ⟨ev, hm, rfl, sameKey_refl _ _ _, rfl⟩
    obtain ⟨ed, hedm, hedk, hs'⟩ := (h.mem_tlOf ev.u ev.v s).mpr hs
    exact ⟨ed, hedm, hedk, s, hs', h1⟩
  have complete : ∀ ed ∈ g.edges, ∀ s ∈ ed.tl, ∀ p, due p s →
      ∃ ev ∈ g.events, ev.plus = p ∧ ev.t = mark p s ∧ sameKey g.directed ed.u ed.v ev.u ev.v = true := by
    intro ed hedm s hs p hdue
    obtain ⟨ev, hm, h1, h2, h3⟩ := (hk ed.u ed.v).complete s
      ((h.mem_tlOf ed.u ed.v s).mp ⟨ed, hedm, sameKey_refl _ _ _, hs⟩) p hdue
    exact ⟨ev, hm, h3, h1, sameKey_symm_of h2⟩
  exact {
    nodup := hn
    plus_sound := fun ev hm hp => by have := sound ev hm; rwa [hp] at this
    plus_complete := fun ed hedm s hs => complete ed hedm s hs true (Or.inl rfl)
    minus_sound := fun ev hm hp => by have := sound ev hm; rwa [hp] at this
    minus_complete := fun ed hedm s hs hlen => complete ed hedm s hs false (Or.inr hlen) }

theorem EvInv.update {g g' : Graph} (hev : EvInv g) (h : WF g) (h' : WF g') (hd : g'.directed = g.directed)
    {u v : Node} {tl' : List Span}
    (htl : ∀ x y, g'.tlOf x y = if sameKey g.directed u v x y then tl' else g.tlOf x y)
    (hed : LogEdit g.directed u v g.events g'.events) (hk : KeyInv g.directed u v tl' g'.events) : EvInv g' := by
  refine evInv_of_keyInv h' (hd ▸ hed.noRep hev.nodup) fun x y => ?_
  rw [hd, htl]
  split
  · rename_i hkey; exact hk.of_marks fun t p => (hasMark_congr hkey _ t p).symm
  · rename_i hkey; exact (hev.keyInv h x y).of_marks (hed.other ((Bool.not_eq_true _).mp hkey))

theorem addInteraction_evInv (g : Graph) (h : WF g) (hr : g.removal = true) (hev : EvInv g) (u v : Node)
    (t e : Option Int) : EvInv (g.addInteraction u v t e).1 := by
  have hwf := h.addInteraction u v t e
  have hd := addInteraction_directed g u v t e
  have hed := addInteraction_logEdit g u v t e
  have hold := hev.keyInv h u v
  -- the cases are those of the definition; in each the vanishing time is `g.effE e`, as the definition has it
  revert hwf hd hed
  fun_cases Graph.addInteraction g u v t e
  case case3 t0 t1 hs hf =>  -- new pair
    rw [addNew_eq]; intro hwf hd hed
    rw [tlOf_none hf] at hold
    exact hev.update h hwf hd (tlOf_append hd rfl hf) hed (hold.push hs)
  case case6 t0 t1 hs ed hf a b rest htl _ _ =>  -- covered
    rw [addCovered_eq]; intro hwf hd hed
    rw [tlOf_some hf, htl] at hold
    refine hev.update h hwf hd (tlOf_mapTl hd (htl ▸ (mapTl_self h.keys hf).symm) hf) hed ?_
    by_cases h1 : t1 = b
    · -- a vanishing time is recorded at `b + 1` (again)
      rw [if_pos h1]
      generalize g.effE e = eR at hs ⊢
      cases eR with
      | none => exact hold
      | some e' => exact hold.open.close (h1 ▸ spanEnd_some_eq hs)
    · rw [if_neg h1]; exact hold
  case case7 hacc => simp [hr] at hacc  -- accumulative
  case case8 t0 t1 hs ed hf a b rest htl _ _ _ _ =>  -- extend
    rw [addExtend_eq]; intro hwf hd hed
    rw [tlOf_some hf, htl] at hold
    refine hev.update h hwf hd (tlOf_mapTl hd rfl hf) hed ?_
    have hopen := hold.openExt (htl ▸ (h.tl ed (findEdge_some hf).1).2) t1
    generalize g.effE e = eR at hs ⊢
    cases eR with
    | some e' => exact hopen.close (spanEnd_some_eq hs)
    | none =>
      show KeyInv _ _ _ _ (if _ then _ else _)
      split
      · next h1 =>
        have h1 := (Bool.and_eq_true ..).mp h1
        exact hopen.keep (by
          show ¬ a + 1 < t1
          rw [spanEnd_none_eq hs, eq_of_beq h1.2, eq_of_beq h1.1]; exact Int.lt_irrefl _)
      · exact hopen.close rfl
  case case9 t0 t1 hs ed hf a b rest htl _ _ _ _ =>  -- append
    rw [addAppend_eq]; intro hwf hd hed
    rw [tlOf_some hf, htl] at hold
    exact hev.update h hwf hd (tlOf_mapTl hd rfl hf) hed (hold.push hs)
  all_goals exact fun _ _ _ => hev  -- no `t`, empty span, no timeline, rejected: the state is unchanged

theorem run_evInv (g : Graph) (h : WF g) (hr : g.removal = true) (hev : EvInv g) (ops : List Op) :
    EvInv (g.run ops).1 :=
  (run_induction (P := fun g => WF g ∧ g.removal = true ∧ EvInv g) ops ⟨h, hr, hev⟩
    fun g ⟨h, hr, hev⟩ _ _ _ _ => ⟨h.addInteraction .., by rw [addInteraction_removal, hr],
      addInteraction_evInv g h hr hev ..⟩).2.2

end Dynetx
