import DynetxProofs.Equivariance
import DynetxProofs.Lemmas.Folds
import DynetxProofs.C20Sliding
namespace Dynetx

section
variable {ρ : Node → Node} (hρ : Function.Injective ρ)
include hρ

def Op.rename (ρ : Node → Node) (op : Op) : Op := { op with pairs := op.pairs.map (fun p => (ρ p.1, ρ p.2)) }

theorem rn_addFromGo (es : List (Node × Node)) (t e : Option Int) (g : Graph) :
    (g.rename ρ).addFromGo (es.map (fun p => (ρ p.1, ρ p.2))) t e =
      (((g.addFromGo es t e).1).rename ρ, (g.addFromGo es t e).2) := by
  rw [addFromGo_eq, addFromGo_eq]
  exact foldExit_hom (Graph.rename ρ) _ (fun g p => rn_addInteraction hρ g p.1 p.2 t e) g es

theorem rn_step (g : Graph) (op : Op) :
    (g.rename ρ).step (op.rename ρ) = (((g.step op).1).rename ρ, (g.step op).2) := by
  unfold Graph.step Graph.addInteractionsFrom Op.rename
  cases op.t with
  | none => rfl
  | some t => exact rn_addFromGo hρ op.pairs (some t) op.e g

theorem rn_run (ops : List Op) : ∀ g : Graph,
    (g.rename ρ).run (ops.map (Op.rename ρ)) = (((g.run ops).1).rename ρ, (g.run ops).2) := by
  induction ops with
  | nil => intro g; rfl
  | cons op rest ih =>
    intro g
    simp only [List.map_cons, Graph.run, rn_step hρ, ih]

theorem rn_setAttr (g : Graph) (n : Node) (a : Nat) : (g.rename ρ).setAttr (ρ n) a = (g.setAttr n a).rename ρ := by
  rw [setAttr_upsert, setAttr_upsert]
  exact congrArg (fun ns => ({ g.rename ρ with nodes := ns } : Graph))
    (map_upsert (fun p : Node × Nat => (ρ p.1, p.2)) ρ hρ (fun _ => rfl) g.nodes n _ (fun _ => (ρ n, a)) a fun _ => rfl)

omit hρ in
theorem rn_addNode_nodes (g : Graph) : (g.rename ρ).gattr = g.gattr := rfl

theorem rn_addNode (g : Graph) (n : Node) : (g.rename ρ).addNode (ρ n) = (g.addNode n).rename ρ := by
  simp only [Graph.addNode, Graph.rename, rn_ensureNode hρ]

/-- **C20 (node renaming), for graphs given by their history**: the same history with renamed node ids, the renamed
    nodes labelled with the same labels, and `delta_conformity` returns the same scores under the renamed keys -/
theorem C20_rename_nodes_history (d r : Bool) (ops : List Op) (attrs : List (Node × Nat))
    (start delta : Int) (alphas : List Nat) (ptype : Nat) :
    ((attrs.map (fun p => (ρ p.1, p.2))).foldl (fun g p => g.setAttr p.1 p.2)
        ((Graph.empty d r).run (ops.map (Op.rename ρ))).1).deltaConformity start delta alphas ptype =
      ((attrs.foldl (fun g p => g.setAttr p.1 p.2) ((Graph.empty d r).run ops).1).deltaConformity
        start delta alphas ptype).map (rnConf ρ) := by
  have hrun := rn_run hρ ops (Graph.empty d r)
  rw [rn_empty] at hrun
  rw [hrun, List.foldl_map, List.foldl_hom (Graph.rename ρ) (g₁ := fun g p => g.setAttr p.1 p.2)
    (fun g p => rn_setAttr hρ g p.1 p.2)]
  exact C20_rename_nodes hρ _ start delta alphas ptype

/-- **C20 (sliding, node renaming).** The series reported for (alpha, ρ n) on the renamed graph is the series reported
    for (alpha, n) on the original graph. -/
theorem C20_rename_nodes_sliding (dg : Graph) (delta : Int) (alphas : List Nat) (ptype : Nat)
    (res res' : Sliding)
    (h : dg.slidingDeltaConformity delta alphas ptype = .ok res)
    (h' : (dg.rename ρ).slidingDeltaConformity delta alphas ptype = .ok res') :
    ∀ a n, c20s_series res' a (ρ n) = c20s_series res a n := by
  intro a n
  rw [C20_sliding _ delta alphas ptype res' h', C20_sliding _ delta alphas ptype res h]
  -- the renamed graph has the ids of `dg`, so both sides visit `c20s_qualifying dg delta`
  refine congrArg (fun f => List.flatMap f (c20s_qualifying dg delta)) (funext fun t => ?_)
  rw [C20_rename_nodes hρ]
  rcases dg.deltaConformity t delta alphas ptype with _ | _ | r
  · rfl
  · rfl
  · show c20s_contrib _ (r.map _) a (ρ n) = c20s_contrib _ r a n
    simp only [c20s_contrib, rn, rn_beq hρ]

/-- so `h'` of `C20_rename_nodes_sliding` follows from `h` -/
theorem C20_rename_nodes_sliding_ok (dg : Graph) (delta : Int) (alphas : List Nat) (ptype : Nat) :
    (∃ res', (dg.rename ρ).slidingDeltaConformity delta alphas ptype = .ok res') ↔
      (∃ res, dg.slidingDeltaConformity delta alphas ptype = .ok res) := by
  rw [C20_sliding_ok_iff, C20_sliding_ok_iff]
  refine forall₂_congr fun t (_ : t ∈ c20s_qualifying dg delta) => ?_
  rw [C20_rename_nodes hρ]
  cases dg.deltaConformity t delta alphas ptype with
  | error e => exact iff_of_false nofun nofun
  | ok o => exact iff_of_true ⟨_, rfl⟩ ⟨o, rfl⟩

end

theorem rn_add7_injective : Function.Injective (fun x : Nat => x + 7) := fun _ _ h => Nat.add_right_cancel h

example (ops : List Op) (attrs : List (Node × Nat)) :
    ((attrs.map (fun p => (p.1 + 7, p.2))).foldl (fun g p => g.setAttr p.1 p.2)
        ((Graph.empty false true).run (ops.map (Op.rename (· + 7)))).1).deltaConformity 0 2 [1] 0 =
      ((attrs.foldl (fun g p => g.setAttr p.1 p.2) ((Graph.empty false true).run ops).1).deltaConformity 0 2 [1] 0).map
        (rnConf (· + 7)) :=
  C20_rename_nodes_history rn_add7_injective false true ops attrs 0 2 [1] 0

end Dynetx
