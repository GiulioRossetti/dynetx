import DynetxProofs.Lemmas.Lists
/-
  C15 — the temporal DAG (`Graph.temporalDag`, algorithms/paths.py `temporal_dag`). One iteration of its loop over the
  window is put in closed form, and two invariants of the fold (one over any list of instants, one over strictly
  increasing ones) say what `edges`, `sources`, `targets` and `active` hold; the statements about the result, here and
  in C12 / C13, are read off them.

  Like the code, everything here speaks of `g.neighbors x (some t)`; these are the `y` with
  `g.hasInteraction x y (some t)` (`C02_neighbors` in Q1, no hypothesis), so each statement about neighbours is one
  about presence.
-/
namespace Dynetx

theorem mem_newTargets {v : Option Node} {nb : List Node} {tid : Int} {o : Occ} :
    o ∈ newTargets v nb tid ↔ (o.2 = tid ∧ o.1 ∈ nb ∧ ∀ w, v = some w → o.1 = w) := by
  obtain ⟨y, t⟩ := o
  cases v with
  | none =>
    simp only [newTargets, List.mem_map, Prod.mk.injEq, reduceCtorEq, false_imp_iff, implies_true, and_true]
    exact ⟨fun ⟨n, hn, h1, h2⟩ => ⟨h2.symm, h1 ▸ hn⟩, fun ⟨h1, h2⟩ => ⟨y, h2, rfl, h1.symm⟩⟩
  | some w =>
    simp only [newTargets, Option.some.injEq, forall_eq']
    split
    · rename_i h
      have hw : w ∈ nb := List.contains_iff_mem.mp h
      simp only [List.mem_singleton, Prod.mk.injEq]
      exact ⟨fun ⟨h1, h2⟩ => ⟨h2, h1 ▸ hw, h1⟩, fun ⟨h1, _, h2⟩ => ⟨h2, h1⟩⟩
    · rename_i h
      simp only [List.not_mem_nil, false_iff]
      rintro ⟨_, hm, rfl⟩
      exact h (List.contains_iff_mem.mpr hm)

/-- the state of the loop over the active occurrences: `(edges, targets, to_add, to_remove)` -/
abbrev StepAcc := List (Occ × Occ) × List Occ × List Occ × List Occ

/-- the body of the loop over the active occurrences, with projections instead of the pattern -/
def innerF (g : Graph) (v : Option Node) (tid : Int) (acc : StepAcc) (an : Occ) : StepAcc :=
  ((((g.neighbors an.1 (some tid)).map (fun n => (an, (n, tid)))).foldl insertNew acc.1),
   ((newTargets v (g.neighbors an.1 (some tid)) tid).foldl insertNew acc.2.1),
   (acc.2.2.1 ++ (g.neighbors an.1 (some tid)).map (fun n => (n, tid))),
   (if (g.neighbors an.1 (some tid)).isEmpty then acc.2.2.2 ++ [an] else acc.2.2.2))

theorem foldl_innerF (g : Graph) (v : Option Node) (tid : Int) (act : List Occ) (acc : StepAcc) :
    act.foldl (innerF g v tid) acc =
      ((act.flatMap fun an => (g.neighbors an.1 (some tid)).map fun n => (an, (n, tid))).foldl insertNew acc.1,
       (act.flatMap fun an => newTargets v (g.neighbors an.1 (some tid)) tid).foldl insertNew acc.2.1,
       acc.2.2.1 ++ act.flatMap fun an => (g.neighbors an.1 (some tid)).map fun n => (n, tid),
       acc.2.2.2 ++ act.filter fun an => (g.neighbors an.1 (some tid)).isEmpty) := by
  induction act generalizing acc with
  | nil => simp
  | cons a act ih =>
    rw [List.foldl_cons, ih]
    simp only [innerF, List.flatMap_cons, List.foldl_append, List.append_assoc, List.filter_cons]
    split <;> simp

/-- the edges the step at `tid` adds: from the root `(u, tid)` and from every active occurrence to each neighbour
    of its node at `tid` -/
def newEdges (g : Graph) (u : Node) (st : Dag) (tid : Int) : List (Occ × Occ) :=
  ((u, tid) :: st.active).flatMap fun an => (g.neighbors an.1 (some tid)).map fun n => (an, (n, tid))

theorem mem_newEdges {g : Graph} {u : Node} {st : Dag} {tid : Int} {e : Occ × Occ} :
    e ∈ newEdges g u st tid ↔
      (e.1 = (u, tid) ∨ e.1 ∈ st.active) ∧ e.2.2 = tid ∧ e.2.1 ∈ g.neighbors e.1.1 (some tid) := by
  obtain ⟨a, n, t⟩ := e
  simp only [newEdges, List.mem_flatMap, List.mem_map, List.mem_cons, Prod.mk.injEq]
  constructor
  · rintro ⟨an, han, n', hn, rfl, rfl, rfl⟩
    exact ⟨han, rfl, hn⟩
  · rintro ⟨han, rfl, hn⟩
    exact ⟨a, han, n, hn, rfl, rfl, rfl⟩

/-- the bare root is handled like one more active occurrence, `(u, tid)`, that is never removed -/
theorem dagStep_closed (g : Graph) (u : Node) (v : Option Node) (st : Dag) (tid : Int) :
    dagStep g u v st tid =
      { edges := (newEdges g u st tid).foldl insertNew st.edges
        sources := if (g.neighbors u (some tid)).isEmpty then st.sources else insertNew st.sources (u, tid)
        targets := (((u, tid) :: st.active).flatMap fun an =>
          newTargets v (g.neighbors an.1 (some tid)) tid).foldl insertNew st.targets
        active := (((newEdges g u st tid).map (·.2)).foldl insertNew st.active).filter fun a =>
          !(st.active.filter fun an => (g.neighbors an.1 (some tid)).isEmpty).contains a } := by
  show Dag.mk (st.active.foldl (innerF g v tid) _).1 _ (st.active.foldl (innerF g v tid) _).2.1
    (List.filter (fun a => !(st.active.foldl (innerF g v tid) _).2.2.2.contains a)
      ((st.active.foldl (innerF g v tid) _).2.2.1.foldl insertNew st.active)) = _
  simp only [foldl_innerF, newEdges, List.flatMap_cons, List.foldl_append, List.map_append, List.map_flatMap,
    List.map_map, Function.comp_def, List.nil_append]

section Step
variable {g : Graph} {u : Node} {v : Option Node} {st : Dag} {tid : Int}

theorem mem_dagStep_edges {e : Occ × Occ} :
    e ∈ (dagStep g u v st tid).edges ↔ e ∈ st.edges ∨ e ∈ newEdges g u st tid := by
  rw [dagStep_closed]
  exact mem_foldl_insertNew

theorem mem_dagStep_sources {o : Occ} :
    o ∈ (dagStep g u v st tid).sources ↔ o ∈ st.sources ∨ (o = (u, tid) ∧ g.neighbors u (some tid) ≠ []) := by
  rw [dagStep_closed]
  simp only
  split <;> simp_all [mem_insertNew]

theorem mem_dagStep_targets {o : Occ} :
    o ∈ (dagStep g u v st tid).targets ↔
      o ∈ st.targets ∨ ((∃ e ∈ newEdges g u st tid, e.2 = o) ∧ ∀ w, v = some w → o.1 = w) := by
  rw [dagStep_closed]
  simp only [mem_foldl_insertNew, List.mem_flatMap, mem_newTargets, List.mem_cons]
  refine or_congr_right ⟨?_, ?_⟩
  · rintro ⟨an, han, h2, hn, hv⟩
    exact ⟨⟨(an, o), mem_newEdges.mpr ⟨han, h2, hn⟩, rfl⟩, hv⟩
  · rintro ⟨⟨e, he, rfl⟩, hv⟩
    obtain ⟨h1, h2, h3⟩ := mem_newEdges.mp he
    exact ⟨e.1, h1, h2, h3, hv⟩

theorem mem_dagStep_active {a : Occ} :
    a ∈ (dagStep g u v st tid).active ↔
      (a ∈ st.active ∨ ∃ e ∈ newEdges g u st tid, e.2 = a) ∧
        ¬ (a ∈ st.active ∧ g.neighbors a.1 (some tid) = []) := by
  rw [dagStep_closed]
  simp only [List.mem_filter, mem_foldl_insertNew, List.mem_map, Bool.not_eq_true', List.contains_eq_mem,
    decide_eq_false_iff_not, List.isEmpty_iff]

end Step

/-- Invariant of the fold over the window, `done` being the instants processed so far: the part that holds over any
    list of instants (the statements of C15 that carry no hypothesis on the snapshot ids rest on it alone). -/
structure DagInv (g : Graph) (u : Node) (v : Option Node) (done : List Int) (d : Dag) : Prop where
  edge_sound : ∀ e ∈ d.edges, e.2.2 ∈ done ∧ e.2.1 ∈ g.neighbors e.1.1 (some e.2.2)
  root_edges : ∀ t ∈ done, ∀ n ∈ g.neighbors u (some t), ((u, t), (n, t)) ∈ d.edges
  sources_iff : ∀ o, o ∈ d.sources ↔ (o.1 = u ∧ o.2 ∈ done ∧ g.neighbors u (some o.2) ≠ [])
  targets_iff : ∀ o, o ∈ d.targets ↔ ((∃ e ∈ d.edges, e.2 = o) ∧ ∀ w, v = some w → o.1 = w)

/-- The part that needs strictly increasing instants. `active_iff` is the notion the rest turns on: an occurrence is
    active exactly when it is the head of an edge and its node has interacted at every later instant. `edges_iff` is
    the exact description of the edge set: an edge arrives at an instant of the window at a neighbour of the node it
    leaves, and it leaves either the root at that same instant or the head of an edge whose node has interacted at every
    instant in between. -/
structure DagInvT (g : Graph) (u : Node) (done : List Int) (d : Dag) : Prop where
  active_iff : ∀ a, a ∈ d.active ↔
    ((∃ e ∈ d.edges, e.2 = a) ∧ ∀ w ∈ done, a.2 < w → g.neighbors a.1 (some w) ≠ [])
  edges_iff : ∀ e, e ∈ d.edges ↔ e.2.2 ∈ done ∧ e.2.1 ∈ g.neighbors e.1.1 (some e.2.2) ∧
    (e.1 = (u, e.2.2) ∨ ((∃ e' ∈ d.edges, e'.2 = e.1) ∧ e.1.2 < e.2.2 ∧
      ∀ w ∈ done, e.1.2 < w → w < e.2.2 → g.neighbors e.1.1 (some w) ≠ []))

section Inv
variable {g : Graph} {u : Node} {v : Option Node} {done : List Int} {st : Dag}

theorem DagInv.empty : DagInv g u v [] Dag.empty where
  edge_sound := List.forall_mem_nil _
  root_edges := List.forall_mem_nil _
  sources_iff _ := ⟨List.not_mem_nil.elim, (List.not_mem_nil.elim ·.2.1)⟩
  targets_iff _ := ⟨List.not_mem_nil.elim, fun ⟨⟨_, h, _⟩, _⟩ => List.not_mem_nil.elim h⟩

theorem DagInvT.empty : DagInvT g u [] Dag.empty where
  active_iff _ := ⟨List.not_mem_nil.elim, fun ⟨⟨_, h, _⟩, _⟩ => List.not_mem_nil.elim h⟩
  edges_iff _ := ⟨List.not_mem_nil.elim, (List.not_mem_nil.elim ·.1)⟩

theorem DagInv.step (h : DagInv g u v done st) (tid : Int) :
    DagInv g u v (done ++ [tid]) (dagStep g u v st tid) where
  edge_sound e he := by
    rw [List.mem_append, List.mem_singleton]
    rcases mem_dagStep_edges.mp he with he | he
    · exact ⟨Or.inl (h.edge_sound e he).1, (h.edge_sound e he).2⟩
    · obtain ⟨_, h2, h3⟩ := mem_newEdges.mp he
      exact ⟨Or.inr h2, h2 ▸ h3⟩
  root_edges t ht n hn := by
    rw [List.mem_append, List.mem_singleton] at ht
    rcases ht with ht | rfl
    · exact mem_dagStep_edges.mpr (Or.inl (h.root_edges t ht n hn))
    · exact mem_dagStep_edges.mpr (Or.inr (mem_newEdges.mpr ⟨Or.inl rfl, rfl, hn⟩))
  sources_iff o := by
    rw [mem_dagStep_sources, h.sources_iff, List.mem_append, List.mem_singleton]
    constructor
    · rintro (⟨h1, h2, h3⟩ | ⟨rfl, h3⟩)
      · exact ⟨h1, Or.inl h2, h3⟩
      · exact ⟨rfl, Or.inr rfl, h3⟩
    · rintro ⟨h1, h2 | h2, h3⟩
      · exact Or.inl ⟨h1, h2, h3⟩
      · exact Or.inr ⟨Prod.ext h1 h2, h2 ▸ h3⟩
  targets_iff o := by
    simp only [mem_dagStep_targets, h.targets_iff, mem_dagStep_edges, or_and_right, exists_or]

theorem DagInvT.step (h : DagInvT g u done st) (tid : Int) (hlt : ∀ t ∈ done, t < tid) :
    DagInvT g u (done ++ [tid]) (dagStep g u v st tid) := by
  -- what is there arrived before `tid`; what the step adds arrives at `tid`
  have hold : ∀ e ∈ st.edges, e.2.2 < tid := fun e he => hlt _ ((h.edges_iff e).mp he).1
  have hact : ∀ a ∈ st.active, a.2 < tid := fun a ha => by
    obtain ⟨⟨e, he, rfl⟩, _⟩ := (h.active_iff a).mp ha
    exact hold e he
  have hnew : ∀ e ∈ newEdges g u st tid, e.2.2 = tid := fun e he => (mem_newEdges.mp he).2.1
  -- so the head of an edge that is there before `tid` was the head of an edge before the step
  have hhead : ∀ a : Occ, a.2 < tid → (∃ e ∈ (dagStep g u v st tid).edges, e.2 = a) → ∃ e ∈ st.edges, e.2 = a := by
    rintro _ ha ⟨e, he, rfl⟩
    rcases mem_dagStep_edges.mp he with he | he
    · exact ⟨e, he, rfl⟩
    · have := hnew e he
      omega
  refine ⟨fun a => ?_, fun e => ?_⟩
  · simp only [mem_dagStep_active, mem_dagStep_edges, List.forall_mem_append, List.forall_mem_singleton]
    constructor
    · rintro ⟨ha | ⟨e, he, rfl⟩, hrem⟩
      · obtain ⟨⟨e, he, rfl⟩, hal⟩ := (h.active_iff a).mp ha
        exact ⟨⟨e, Or.inl he, rfl⟩, hal, fun _ hemp => hrem ⟨ha, hemp⟩⟩
      · have := hnew e he
        exact ⟨⟨e, Or.inr he, rfl⟩, fun w hw _ => by have := hlt w hw; omega, fun _ => by omega⟩
    · rintro ⟨⟨e, he | he, rfl⟩, hal, hnow⟩
      · exact ⟨Or.inl ((h.active_iff e.2).mpr ⟨⟨e, he, rfl⟩, hal⟩), fun hrem => hnow (hold e he) hrem.2⟩
      · refine ⟨Or.inr ⟨e, he, rfl⟩, fun hrem => ?_⟩
        have := hact _ hrem.1
        have := hnew e he
        omega
  · rw [mem_dagStep_edges, h.edges_iff, mem_newEdges, List.forall_mem_append, List.forall_mem_singleton,
      List.mem_append, List.mem_singleton]
    constructor
    · rintro (⟨ht, hn, hfrom⟩ | ⟨hfrom, rfl, hn⟩)
      -- an edge from before: `tid` does not lie between its ends
      · have := hlt _ ht
        exact ⟨Or.inl ht, hn, hfrom.imp_right fun ⟨⟨e', he', h1⟩, h2, h3⟩ =>
          ⟨⟨e', mem_dagStep_edges.mpr (Or.inl he'), h1⟩, h2, h3, fun _ _ => by omega⟩⟩
      -- a new edge that does not leave the root leaves an active occurrence: `active_iff` is the condition asked for
      · refine ⟨Or.inr rfl, hn, hfrom.imp_right fun ha => ?_⟩
        obtain ⟨⟨e', he', h1⟩, hal⟩ := (h.active_iff _).mp ha
        exact ⟨⟨e', mem_dagStep_edges.mpr (Or.inl he'), h1⟩, hact _ ha, fun w hw h2 _ => hal w hw h2, fun _ _ => by omega⟩
    · rintro ⟨ht | ht, hn, hfrom⟩
      -- arrival before `tid`: the edge was there, and so was the edge its tail is the head of (`hhead`)
      · have := hlt _ ht
        exact Or.inl ⟨ht, hn, hfrom.imp_right fun ⟨hh, h2, h3, _⟩ => ⟨hhead _ (by omega) hh, h2, h3⟩⟩
      -- arrival at `tid`: the tail is the root at `tid`, or active by `active_iff`
      · refine Or.inr ⟨hfrom.imp (ht ▸ ·) fun ⟨hh, h2, h3, _⟩ => (h.active_iff _).mpr
          ⟨hhead _ (by omega) hh, fun w hw h4 => h3 w hw h4 (ht ▸ hlt w hw)⟩, ht, ht ▸ hn⟩

end Inv

/-- the bounds of the window, defaults resolved; without ids the `0` does not matter: the window is a part of `g.ids` -/
def winLo (g : Graph) (start : Option Int) : Int := start.getD ((minList g.ids).getD 0)
def winHi (g : Graph) (stop : Option Int) : Int := stop.getD ((maxList g.ids).getD 0)

/-- the instants `temporal_dag` iterates over: the snapshot ids from `start` (default: the smallest) to `end` (default:
    the largest) -/
def dagWindow (g : Graph) (start stop : Option Int) : List Int :=
  g.ids.filter (fun i => decide (winLo g start ≤ i) && decide (i ≤ winHi g stop))

theorem mem_dagWindow {g : Graph} {start stop : Option Int} {t : Int} :
    t ∈ dagWindow g start stop ↔ (t ∈ g.ids ∧ winLo g start ≤ t ∧ t ≤ winHi g stop) := by
  simp [dagWindow, List.mem_filter]

theorem temporalDag_cases (g : Graph) (u : Node) (v : Option Node) (start stop : Option Int) :
    (g.ids = [] ∧ g.temporalDag u v start stop = .ok Dag.empty) ∨
    ∃ lo hi, minList g.ids = some lo ∧ maxList g.ids = some hi ∧ g.temporalDag u v start stop =
      if start.getD lo < lo ∨ start.getD lo > stop.getD hi ∨ stop.getD hi > hi ∨ start.getD lo > hi
      then .error .value else .ok ((dagWindow g start stop).foldl (dagStep g u v) Dag.empty) := by
  cases hlo : minList g.ids with
  | none => exact Or.inl ⟨minList_eq_none.mp hlo, by simp [Graph.temporalDag, hlo]⟩
  | some lo =>
    cases hhi : maxList g.ids with
    | none => rw [maxList_eq_none.mp hhi] at hlo; cases hlo
    | some hi =>
      refine Or.inr ⟨lo, hi, rfl, rfl, ?_⟩
      simp only [Graph.temporalDag, hlo, hhi, dagWindow, winLo, winHi, Option.getD_some, Bool.or_eq_true,
        decide_eq_true_eq, or_assoc]

theorem temporalDag_ok {g : Graph} {u : Node} {v : Option Node} {start stop : Option Int} {d : Dag}
    (h : g.temporalDag u v start stop = .ok d) :
    d = (dagWindow g start stop).foldl (dagStep g u v) Dag.empty := by
  rcases temporalDag_cases g u v start stop with ⟨hnil, h'⟩ | ⟨lo, hi, _, _, h'⟩ <;> rw [h'] at h
  · rw [← Except.ok.inj h]
    simp [dagWindow, hnil]
  · split at h
    · cases h
    · exact (Except.ok.inj h).symm

section
variable {g : Graph} {u : Node} {v : Option Node} {start stop : Option Int} {d : Dag}

theorem temporalDag_inv (h : g.temporalDag u v start stop = .ok d) : DagInv g u v (dagWindow g start stop) d := by
  rw [temporalDag_ok h]
  simpa using foldl_prefix_inv (R := fun _ _ => True) _ (DagInv g u v) (fun _ t _ _ h => h.step t) _ [] _
    (List.pairwise_of_forall fun _ _ => trivial) DagInv.empty

theorem temporalDag_invT (hids : g.ids.Pairwise (· < ·)) (h : g.temporalDag u v start stop = .ok d) :
    DagInvT g u (dagWindow g start stop) d := by
  rw [temporalDag_ok h]
  simpa using foldl_prefix_inv _ (DagInvT g u) (fun _ t _ hlt h => h.step t hlt) (dagWindow g start stop) [] _
    (hids.filter _) .empty

end

/-- every edge X@s → Y@t corresponds to Y being a neighbour (successor) of X at t -/
theorem C15_edge_sound (g : Graph) (u : Node) (v : Option Node) (start stop : Option Int) (d : Dag)
    (h : g.temporalDag u v start stop = .ok d) :
    ∀ e ∈ d.edges, e.2.1 ∈ g.neighbors e.1.1 (some e.2.2) :=
  fun e he => ((temporalDag_inv h).edge_sound e he).2

/-- the arrival time of every edge is a window instant -/
theorem C15_edge_window_mem (g : Graph) (u : Node) (v : Option Node) (start stop : Option Int) (d : Dag)
    (h : g.temporalDag u v start stop = .ok d) :
    ∀ e ∈ d.edges, e.2.2 ∈ dagWindow g start stop :=
  fun e he => ((temporalDag_inv h).edge_sound e he).1

/-- the same with the bounds resolved explicitly (`lo`/`hi` = smallest/largest snapshot id) -/
theorem C15_edge_window (g : Graph) (u : Node) (v : Option Node) (start stop : Option Int) (d : Dag)
    (lo hi : Int) (hlo : minList g.ids = some lo) (hhi : maxList g.ids = some hi)
    (h : g.temporalDag u v start stop = .ok d) :
    ∀ e ∈ d.edges, start.getD lo ≤ e.2.2 ∧ e.2.2 ≤ stop.getD hi ∧ e.2.2 ∈ g.ids := by
  intro e he
  have := mem_dagWindow.mp (C15_edge_window_mem g u v start stop d h e he)
  simp only [winLo, winHi, hlo, hhi, Option.getD_some] at this
  exact ⟨this.2.1, this.2.2, this.1⟩

/-- an edge goes strictly forward in time, or leaves a recorded source at its own instant -/
theorem C15_edge_time (g : Graph) (u : Node) (v : Option Node) (start stop : Option Int) (d : Dag)
    (hids : (g.ids).Pairwise (· < ·)) (h : g.temporalDag u v start stop = .ok d) :
    ∀ e ∈ d.edges, e.1.2 < e.2.2 ∨ (e.1 ∈ d.sources ∧ e.1.2 = e.2.2) := by
  intro e he
  obtain ⟨hw, hn, h1 | ⟨_, h1, _⟩⟩ := ((temporalDag_invT hids h).edges_iff e).mp he
  · rw [(temporalDag_inv h).sources_iff, h1]
    rw [h1] at hn
    exact Or.inr ⟨⟨rfl, hw, List.ne_nil_of_mem hn⟩, rfl⟩
  · exact Or.inl h1

/-- the root's edges are all there: `u@t → n@t` for every window instant `t` and neighbour `n` of `u` at `t` -/
theorem C15_root_edges (g : Graph) (u : Node) (v : Option Node) (start stop : Option Int) (d : Dag)
    (h : g.temporalDag u v start stop = .ok d) :
    ∀ t ∈ dagWindow g start stop, ∀ n ∈ g.neighbors u (some t), ((u, t), (n, t)) ∈ d.edges :=
  (temporalDag_inv h).root_edges

/-- the sources are exactly the occurrences of the root at the window instants where it has a neighbour -/
theorem C15_sources (g : Graph) (u : Node) (v : Option Node) (start stop : Option Int) (d : Dag)
    (h : g.temporalDag u v start stop = .ok d) :
    ∀ o, o ∈ d.sources ↔ (o.1 = u ∧ o.2 ∈ dagWindow g start stop ∧ g.neighbors u (some o.2) ≠ []) :=
  (temporalDag_inv h).sources_iff

/-- exact description of the targets: heads of edges, restricted to `v` when it is given -/
theorem C15_targets_iff (g : Graph) (u : Node) (v : Option Node) (start stop : Option Int) (d : Dag)
    (h : g.temporalDag u v start stop = .ok d) :
    ∀ o, o ∈ d.targets ↔ ((∃ e ∈ d.edges, e.2 = o) ∧ ∀ w, v = some w → o.1 = w) :=
  (temporalDag_inv h).targets_iff

/-- every target is `(y,t)` with `t` in the window and `y` a neighbour of some `x` at `t`; with `v = some w`
    every target is an occurrence of `w` -/
theorem C15_targets (g : Graph) (u : Node) (v : Option Node) (start stop : Option Int) (d : Dag)
    (h : g.temporalDag u v start stop = .ok d) :
    ∀ o ∈ d.targets, o.2 ∈ dagWindow g start stop ∧ (∃ x, o.1 ∈ g.neighbors x (some o.2)) ∧
      ∀ w, v = some w → o.1 = w := by
  intro o ho
  obtain ⟨⟨e, he, rfl⟩, hv⟩ := (C15_targets_iff g u v start stop d h o).mp ho
  exact ⟨C15_edge_window_mem g u v start stop d h e he, ⟨e.1.1, C15_edge_sound g u v start stop d h e he⟩, hv⟩

theorem mem_dag_nodes {d : Dag} {o : Occ} : o ∈ d.nodes ↔ ∃ e ∈ d.edges, o = e.1 ∨ o = e.2 := by
  simp only [Dag.nodes, mem_foldl_insertNew, List.not_mem_nil, false_or, List.mem_flatMap, List.mem_cons, or_false]

/-- sources have an outgoing edge, targets an incoming one; both are nodes of the DAG -/
theorem C15_sources_targets_nodes (g : Graph) (u : Node) (v : Option Node) (start stop : Option Int) (d : Dag)
    (h : g.temporalDag u v start stop = .ok d) :
    (∀ o ∈ d.sources, (∃ e ∈ d.edges, e.1 = o) ∧ o ∈ d.nodes) ∧
    (∀ o ∈ d.targets, (∃ e ∈ d.edges, e.2 = o) ∧ o ∈ d.nodes) := by
  constructor
  · intro o ho
    obtain ⟨h1, h2, h3⟩ := (C15_sources g u v start stop d h o).mp ho
    obtain ⟨n, hn⟩ := List.exists_mem_of_ne_nil _ h3
    have he := (temporalDag_inv h).root_edges o.2 h2 n hn
    rw [← h1] at he
    exact ⟨⟨_, he, rfl⟩, mem_dag_nodes.mpr ⟨_, he, Or.inl rfl⟩⟩
  · intro o ho
    obtain ⟨⟨e, he, rfl⟩, _⟩ := (C15_targets_iff g u v start stop d h o).mp ho
    exact ⟨⟨e, he, rfl⟩, mem_dag_nodes.mpr ⟨e, he, Or.inr rfl⟩⟩

/-- with snapshots present, the call fails exactly on an invalid window -/
theorem C15_invalid_window (g : Graph) (u : Node) (v : Option Node) (start stop : Option Int)
    (lo hi : Int) (hlo : minList g.ids = some lo) (hhi : maxList g.ids = some hi) :
    g.temporalDag u v start stop = .error .value ↔
      (start.getD lo < lo ∨ start.getD lo > stop.getD hi ∨ stop.getD hi > hi ∨ start.getD lo > hi) := by
  rcases temporalDag_cases g u v start stop with ⟨hnil, _⟩ | ⟨lo', hi', hlo', hhi', h'⟩
  · rw [hnil] at hlo; cases hlo
  · obtain rfl := Option.some.inj (hlo.symm.trans hlo')
    obtain rfl := Option.some.inj (hhi.symm.trans hhi')
    rw [h']
    split <;> simp [*]

/-- the failure is always `ValueError`, and it needs at least one snapshot -/
theorem C15_invalid_window_iff (g : Graph) (u : Node) (v : Option Node) (start stop : Option Int) (err : Err) :
    g.temporalDag u v start stop = .error err ↔
      (err = .value ∧ g.ids ≠ [] ∧ ∃ lo hi, minList g.ids = some lo ∧ maxList g.ids = some hi ∧
        (start.getD lo < lo ∨ start.getD lo > stop.getD hi ∨ stop.getD hi > hi ∨ start.getD lo > hi)) := by
  rcases temporalDag_cases g u v start stop with ⟨hnil, h'⟩ | ⟨lo, hi, hlo, hhi, h'⟩ <;> rw [h']
  · simp [hnil]
  · have hne : g.ids ≠ [] := fun hn => by rw [hn] at hlo; cases hlo
    split
    · next hc => exact ⟨fun h => ⟨(Except.error.inj h).symm, hne, lo, hi, hlo, hhi, hc⟩, fun h => h.1 ▸ rfl⟩
    · next hc =>
      refine ⟨(fun h => by cases h), ?_⟩
      rintro ⟨_, _, lo', hi', hlo', hhi', hc'⟩
      obtain rfl := Option.some.inj (hlo.symm.trans hlo')
      obtain rfl := Option.some.inj (hhi.symm.trans hhi')
      exact absurd hc' hc

theorem C15_no_snapshots (g : Graph) (u : Node) (v : Option Node) (start stop : Option Int)
    (h : g.ids = []) : g.temporalDag u v start stop = .ok Dag.empty := by
  simp [Graph.temporalDag, h, minList]

/-- acyclicity: when the root has no self-loop at a window instant, `2·time + [node ≠ u]` strictly
    increases along every edge -/
theorem C15_acyclic (g : Graph) (u : Node) (v : Option Node) (start stop : Option Int) (d : Dag)
    (hids : (g.ids).Pairwise (· < ·)) (h : g.temporalDag u v start stop = .ok d)
    (hloop : ∀ t ∈ dagWindow g start stop, u ∉ g.neighbors u (some t)) :
    ∃ f : Occ → Int, (∀ o, f o = 2 * o.2 + (if o.1 = u then 0 else 1)) ∧ ∀ e ∈ d.edges, f e.1 < f e.2 := by
  refine ⟨fun o => 2 * o.2 + (if o.1 = u then 0 else 1), fun _ => rfl, fun e he => ?_⟩
  obtain ⟨hw, hn, h1 | ⟨_, hlt, _⟩⟩ := ((temporalDag_invT hids h).edges_iff e).mp he
  · have hne : e.2.1 ≠ u := fun hh => hloop _ hw (by rw [h1, hh] at hn; exact hn)
    simp only [h1, hne, if_true, if_false]
    omega
  · simp only
    omega

/-- a non-empty walk along the edges -/
inductive DagWalk (d : Dag) : Occ → Occ → Prop
  | single {a b : Occ} : (a, b) ∈ d.edges → DagWalk d a b
  | cons {a b c : Occ} : (a, b) ∈ d.edges → DagWalk d b c → DagWalk d a c

/-- no closed walk exactly when the root has no self-loop at a window instant -/
theorem C15_acyclic_walk (g : Graph) (u : Node) (v : Option Node) (start stop : Option Int) (d : Dag)
    (hids : (g.ids).Pairwise (· < ·)) (h : g.temporalDag u v start stop = .ok d) :
    (∀ a b, DagWalk d a b → a ≠ b) ↔ ∀ t ∈ dagWindow g start stop, u ∉ g.neighbors u (some t) := by
  constructor
  · intro hw t ht hn
    exact hw _ _ (DagWalk.single (C15_root_edges g u v start stop d h t ht u hn)) rfl
  · intro hloop a b hab
    obtain ⟨f, _, hf⟩ := C15_acyclic g u v start stop d hids h hloop
    have : f a < f b := by
      induction hab with
      | single he => exact hf _ he
      | cons he _ ih => exact Int.lt_trans (hf _ he) ih
    intro heq
    rw [heq] at this
    exact Int.lt_irrefl _ this

/-- accumulative undirected graph: 1–2 from instant 0, 2–3 from instant 1 -/
def c15G : Graph :=
  (((Graph.empty false false).addInteraction 1 2 (some 0) none).1.addInteraction 2 3 (some 1) none).1

theorem c15G_ids : c15G.ids = [0, 1] := List.mergeSort_of_pairwise (by decide)

example : (c15G.temporalDag 1 none none none).toOption.map (fun d => (d.edges, d.sources, d.targets)) =
    some ([((1, 0), 2, 0), ((1, 1), 2, 1), ((2, 0), 1, 1), ((2, 0), 3, 1)], [(1, 0), (1, 1)],
      [(2, 0), (2, 1), (1, 1), (3, 1)]) := by
  unfold Graph.temporalDag
  rw [c15G_ids]
  decide

example : (c15G.temporalDag 1 (some 3) none none).toOption.map (fun d => d.targets) = some [(3, 1)] := by
  unfold Graph.temporalDag
  rw [c15G_ids]
  decide

example : (c15G.temporalDag 1 (some 3) (some 1) (some 5)).toOption.map (fun d => d.edges) = none := by
  unfold Graph.temporalDag
  rw [c15G_ids]
  decide

end Dynetx

