import DynetxProofs.TextRoundtrip
import DynetxProofs.C18Multi
/-
  C09 / C10 at the text level for delimiters and comment markers of several characters: a row printed by the writers
  with the delimiter `D` (`D.join(str(x) for x in row)`) is read back by the parsers as exactly that row, whenever no
  character of `D` is a digit, a sign or a blank and the comment marker starts with a character that occurs neither in
  the numbers nor in `D`.
-/
namespace Dynetx

open List

theorem isPrefixOf_cons_of_not_mem (c : Char) (cs l : List Char) (h : c ∉ l) (i : Nat) :
    (c :: cs).isPrefixOf (l.drop i) = false :=
  Bool.eq_false_iff.mpr fun hp => h (mem_of_mem_drop ((isPrefixOf_iff_prefix.mp hp).subset mem_cons_self))

theorem mem_intercalate {D : List Char} {fs : List (List Char)} {c : Char} (h : c ∈ D.intercalate fs) :
    c ∈ D ∨ ∃ f ∈ fs, c ∈ f := by
  induction fs with
  | nil => simp at h
  | cons f rest ih =>
    cases rest with
    | nil => exact .inr ⟨f, mem_cons_self, by rwa [intercalate_singleton] at h⟩
    | cons g gs =>
      rw [intercalate_cons_cons, mem_append, mem_append] at h
      rcases h with (h | h) | h
      · exact .inr ⟨f, mem_cons_self, h⟩
      · exact .inl h
      · exact (ih h).imp_right fun ⟨x, hx, hc⟩ => ⟨x, mem_cons_of_mem _ hx, hc⟩

theorem fieldsOfS_join (cm D : List Char) (fs : List (List Char)) (hfs : fs ≠ []) (hne : ∃ f ∈ fs, f ≠ [])
    (hD : D ≠ []) (hDw : ∀ c ∈ D, isWs c = false)
    (hfw : ∀ f ∈ fs, ∀ c ∈ f, isWs c = false) (hfD : ∀ f ∈ fs, ∀ c ∈ f, c ∉ D)
    (c0 : Char) (cs : List Char) (hcm : cm = c0 :: cs) (hc0D : c0 ∉ D) (hc0f : ∀ f ∈ fs, c0 ∉ f) :
    fieldsOfS cm (some D) (D.intercalate fs) = .fields fs := by
  have hsplit := C18S_split_join_opt D hD fs hfs hfD
  have hnot : c0 ∉ D.intercalate fs := fun h =>
    (mem_intercalate h).elim hc0D fun ⟨f, hf, hc⟩ => hc0f f hf hc
  have hcut : cutCommentS cm (D.intercalate fs) = D.intercalate fs :=
    C18S_comment_absent _ _ fun i _ => hcm ▸ isPrefixOf_cons_of_not_mem c0 cs _ hnot i
  -- an empty line would split into the one empty field
  have hnonempty : (D.intercalate fs).isEmpty = false := Bool.eq_false_iff.mpr fun h => by
    obtain ⟨a, D', rfl⟩ := exists_cons_of_ne_nil hD
    obtain ⟨f, hf, hfne⟩ := hne
    rw [isEmpty_iff.mp h] at hsplit
    cases Option.some.inj hsplit
    exact hfne (mem_singleton.mp hf)
  have hstrip : strip (D.intercalate fs) = D.intercalate fs :=
    txt_strip_clean _ fun c hc => (mem_intercalate hc).elim (hDw c) fun ⟨f, hf, hcf⟩ => hfw f hf c hcf
  unfold fieldsOfS
  simp only [hcut, hnonempty, Bool.false_eq_true, if_false, hstrip, hsplit]

/-- **C09 (text, any delimiter)**, one snapshot row -/
theorem C09S_text_snapRow (cm D : List Char) (u v : Node) (t : Int) (hD : D ≠ [])
    (hDc : ∀ c ∈ D, c.isDigit = false ∧ c ≠ '-' ∧ isWs c = false)
    (c0 : Char) (cs : List Char) (hcm : cm = c0 :: cs) (hc0 : c0.isDigit = false ∧ c0 ≠ '-' ∧ c0 ∉ D) :
    snapRowS cm (some D) (D.intercalate [natDigits u, natDigits v, intDigits t]) = .row u v t none := by
  obtain ⟨h0d, h0m, h0D⟩ := hc0
  -- each field is clean (`FieldOK`) for `c0` as the marker and any character `c` that is no digit or sign as the delimiter
  have hF : ∀ c, c.isDigit = false ∧ c ≠ '-' → ∀ f ∈ [natDigits u, natDigits v, intDigits t], FieldOK c0 c f :=
    fun c hc => by
      simp only [forall_mem_cons]
      exact ⟨FieldOK.nat h0d hc.1 u, FieldOK.nat h0d hc.1 v, FieldOK.int ⟨h0d, h0m⟩ hc t, forall_mem_nil _⟩
  have h0 := hF c0 ⟨h0d, h0m⟩
  -- so the line splits back into its fields: no blank in `D` or in a field, no character of `D` and no `c0` in a field
  rw [snapRowS_eq, fieldsOfS_join cm D _ (cons_ne_nil _ _) ⟨_, mem_cons_self, txt_natDigits_ne_nil u⟩ hD
    (fun c hc => (hDc c hc).2.2) (fun f hf => (h0 f hf).ws)
    (fun f hf c hc hcd => (hF c ⟨(hDc c hcd).1, (hDc c hcd).2.1⟩ f hf).nodelim hc)
    c0 cs hcm h0D (fun f hf => (h0 f hf).nocm)]
  exact congrArg RowS.toSS (snapOfFields_row (Text_nat_roundtrip u) (Text_nat_roundtrip v) (Text_int_roundtrip t))

/-- **C10 (text, any delimiter)**, one interaction row -/
theorem C10S_text_intRow (cm D : List Char) (u v : Node) (plus : Bool) (t : Int) (hD : D ≠ [])
    (hDc : ∀ c ∈ D, c.isDigit = false ∧ c ≠ '-' ∧ c ≠ '+' ∧ isWs c = false)
    (c0 : Char) (cs : List Char) (hcm : cm = c0 :: cs) (hc0 : c0.isDigit = false ∧ c0 ≠ '-' ∧ c0 ≠ '+' ∧ c0 ∉ D) :
    intRowS cm (some D) (D.intercalate [natDigits u, natDigits v, [if plus then '+' else '-'], intDigits t])
      = .row { t := t, u := u, v := v, plus := plus } := by
  obtain ⟨h0d, h0m, h0p, h0D⟩ := hc0
  -- as in `C09S_text_snapRow`, with the operation field: `+` is excluded besides
  have hF : ∀ c, c.isDigit = false ∧ c ≠ '-' ∧ c ≠ '+' →
      ∀ f ∈ [natDigits u, natDigits v, [if plus then '+' else '-'], intDigits t], FieldOK c0 c f :=
    fun c hc => by
      simp only [forall_mem_cons]
      exact ⟨FieldOK.nat h0d hc.1 u, FieldOK.nat h0d hc.1 v, FieldOK.op ⟨h0m, h0p⟩ hc.2 plus,
        FieldOK.int ⟨h0d, h0m⟩ ⟨hc.1, hc.2.1⟩ t, forall_mem_nil _⟩
  have h0 := hF c0 ⟨h0d, h0m, h0p⟩
  rw [intRowS_eq, fieldsOfS_join cm D _ (cons_ne_nil _ _) ⟨_, mem_cons_self, txt_natDigits_ne_nil u⟩ hD
    (fun c hc => (hDc c hc).2.2.2) (fun f hf => (h0 f hf).ws)
    (fun f hf c hc hcd => (hF c ⟨(hDc c hcd).1, (hDc c hcd).2.1, (hDc c hcd).2.2.1⟩ f hf).nodelim hc)
    c0 cs hcm h0D (fun f hf => (h0 f hf).nocm)]
  exact congrArg RowI.toIS (intOfFields_row plus (Text_nat_roundtrip u) (Text_nat_roundtrip v) (Text_int_roundtrip t))

/-- `'::'` and the marker `'//'` meet the hypotheses -/
example : snapRowS ['/', '/'] (some [':', ':']) ([':', ':'].intercalate [natDigits 12, natDigits 3, intDigits (-45)])
    = .row 12 3 (-45) none :=
  C09S_text_snapRow _ _ 12 3 (-45) (cons_ne_nil _ _) (by decide) '/' ['/'] rfl (by decide)

/-- `generate_snapshots(G, delimiter=D)` / `generate_interactions(G, delimiter=D)` for a delimiter of any length.  These two
    writers are defined here and are not part of the compiled model (the one-character `snapshotLines`, `interactionLines`
    of Text.lean are): the driver does not run them, so the correspondence with the implementation does not exercise them -/
def Graph.snapshotLinesS (g : Graph) (D : List Char) : List (List Char) :=
  g.genSnapshots.map (fun r => D.intercalate [natDigits r.1, natDigits r.2.1, intDigits r.2.2])

def Graph.interactionLinesS (g : Graph) (D : List Char) : List (List Char) :=
  g.genInteractions.map (fun ev =>
    D.intercalate [natDigits ev.u, natDigits ev.v, [if ev.plus then '+' else '-'], intDigits ev.t])

/-- **C09 at text level, any delimiter**: what `generate_snapshots(G, D)` prints is parsed with `delimiter=D` into
    exactly the rows of `generate_snapshots` -/
theorem C09S_text_roundtrip (g : Graph) (cm D : List Char) (hD : D ≠ [])
    (hDc : ∀ c ∈ D, c.isDigit = false ∧ c ≠ '-' ∧ isWs c = false)
    (c0 : Char) (cs : List Char) (hcm : cm = c0 :: cs) (hc0 : c0.isDigit = false ∧ c0 ≠ '-' ∧ c0 ∉ D) :
    parseSnapshotsTextS g.directed cm (some D) (g.snapshotLinesS D)
      = parseSnapshots g.directed (g.genSnapshots.map (fun r => (r.1, r.2.1, r.2.2, none))) := by
  unfold parseSnapshotsTextS parseSnapshots Graph.snapshotLinesS
  rw [parseSnapshotsTextS_go_eq, addMany_eq]
  refine foldExit_written (fun r => ?_) ..
  exact congrArg RowSS.line (C09S_text_snapRow cm D r.1 r.2.1 r.2.2 hD hDc c0 cs hcm hc0)

/-- **C10 at text level, any delimiter**: likewise for `generate_interactions(G, D)` and `parse_interactions` -/
theorem C10S_text_roundtrip (g : Graph) (cm D : List Char) (hD : D ≠ [])
    (hDc : ∀ c ∈ D, c.isDigit = false ∧ c ≠ '-' ∧ c ≠ '+' ∧ isWs c = false)
    (c0 : Char) (cs : List Char) (hcm : cm = c0 :: cs) (hc0 : c0.isDigit = false ∧ c0 ≠ '-' ∧ c0 ≠ '+' ∧ c0 ∉ D) :
    parseInteractionsTextS g.directed cm (some D) (g.interactionLinesS D)
      = parseInteractions g.directed g.genInteractions := by
  unfold parseInteractionsTextS parseInteractions Graph.interactionLinesS
  rw [parseInteractionsTextS_go_eq, replayRows_eq]
  refine (foldExit_written (r := id) (fun r => ?_) ..).trans (congrArg _ (map_id _))
  exact congrArg RowIS.line (C10S_text_intRow cm D r.u r.v r.plus r.t hD hDc c0 cs hcm hc0)

end Dynetx
