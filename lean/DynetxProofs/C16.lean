import DynetxProofs.Lemmas.Rebuild
import DynetxProofs.Lemmas.Snaps
import DynetxProofs.Lemmas.Lists
/-
  C16: `to_directed` / `to_undirected`.  Both replay the calls of a data list on the bare node list
  (`addMany_callsOf`): `to_directed` the pairs as `interactions_iter` yields them, one orientation each
  (finding D12), `to_undirected` the runs of the instants merged from the two orientations of a pair.
-/
namespace Dynetx

theorem c16_sortedSet (l : List Int) :
    (∀ x, x ∈ sortedSet l ↔ x ∈ l) ∧ (sortedSet l).Pairwise (· < ·) := by
  constructor
  · intro x
    unfold sortedSet
    rw [List.mem_eraseDups]
    exact (List.mergeSort_perm _ _).mem_iff
  · exact (((pairwise_mergeSort_key_le (fun a : Int => a) l).sublist (eraseDups_sublist _)).and
      (nodup_eraseDups _)).imp Int.lt_iff_le_and_ne.mpr

theorem c16_sortedSet_eq {l l' : List Int} (hs : l'.Pairwise (· < ·)) (h1 : ∀ x ∈ l, x ∈ l')
    (h2 : ∀ x ∈ l', x ∈ l) : sortedSet l = l' := by
  obtain ⟨hm, hp⟩ := c16_sortedSet l
  refine List.Perm.eq_of_pairwise (le := (· < ·)) (fun a b _ _ hab hba => by omega) hp hs ?_
  rw [List.perm_ext_iff_of_nodup (hp.imp Int.ne_of_lt) (hs.imp Int.ne_of_lt)]
  exact fun x => ⟨fun hx => h1 x ((hm x).mp hx), fun hx => (hm x).mpr (h2 x hx)⟩

/-- the worker of `runsOf` with an open run `[a,b]` below the remaining strictly increasing list: the open
    run stays the head, and the instants of the result are those of the run followed by the list -/
theorem c16_runsGo_some (xs : List Int) : ∀ (a b : Int), a ≤ b → (∀ y ∈ xs, b < y) → xs.Pairwise (· < ·) →
    ∃ b' rest, runsGo (some (a, b)) xs = (a, b') :: rest ∧ CanonAsc ((a, b') :: rest) ∧
      instants ((a, b') :: rest) = irange a b ++ xs := by
  induction xs with
  | nil => exact fun a b hab _ _ => ⟨b, [], rfl, hab, by simp [instants]⟩
  | cons y ys ih =>
    intro a b hab hlt hp
    rw [List.pairwise_cons] at hp
    have hby : b < y := hlt y List.mem_cons_self
    by_cases hy : y = b + 1
    · obtain ⟨b', rest, h1, h2, h3⟩ := ih a y (by omega) hp.1 hp.2
      refine ⟨b', rest, ?_, h2, ?_⟩
      · rw [runsGo, if_pos (beq_iff_eq.mpr hy)]; exact h1
      · rw [h3, hy, irange_succ (by omega), List.append_assoc]; rfl
    · obtain ⟨b', rest, h1, h2, h3⟩ := ih y y (Int.le_refl _) hp.1 hp.2
      refine ⟨b, (y, b') :: rest, ?_, ⟨hab, by show b + 1 < y; omega, h2⟩, ?_⟩
      · rw [runsGo, if_neg (mt beq_iff_eq.mp hy), h1]
      · rw [instants_cons, h3, irange_single]; rfl

theorem c16_runsOf_spec (l : List Int) (hl : l.Pairwise (· < ·)) :
    CanonAsc (runsOf l) ∧ instants (runsOf l) = l := by
  cases l with
  | nil => exact ⟨trivial, rfl⟩
  | cons y ys =>
    rw [List.pairwise_cons] at hl
    obtain ⟨b', rest, h1, h2, h3⟩ := c16_runsGo_some ys y y (Int.le_refl _) hl.1 hl.2
    have : runsOf (y :: ys) = (y, b') :: rest := h1
    rw [this, h3, irange_single]
    exact ⟨h2, rfl⟩

theorem c16_memTl_runsOf {l : List Int} (hl : l.Pairwise (· < ·)) (x : Int) : memTl (runsOf l) x ↔ x ∈ l := by
  rw [← mem_instants, (c16_runsOf_spec l hl).2]

theorem c16_runsOf (l : List Int) (hl : l.Pairwise (· < ·)) :
    (∀ x, (∃ r ∈ runsOf l, r.1 ≤ x ∧ x ≤ r.2) ↔ x ∈ l) ∧
    (∀ r ∈ runsOf l, r.1 ≤ r.2) ∧
    CanonAsc (runsOf l) ∧
    (runsOf l).Pairwise (fun r s => r.1 < s.1) := by
  have h1 := (c16_runsOf_spec l hl).1
  refine ⟨c16_memTl_runsOf hl, h1.all_le, h1, h1.pairwise.imp_of_mem ?_⟩
  intro r s hr _ hrs
  have := h1.all_le r hr
  omega

/-- from "the call returns some `H` with `P H`" to "whatever it returns has `P`" -/
theorem c16_of_ok {r : Except Err Graph} {P : Graph → Prop} (h : ∃ H, r = .ok H ∧ P H) {H : Graph}
    (hH : r = .ok H) : P H := by
  obtain ⟨H', h0, hp⟩ := h
  rw [hH] at h0
  injection h0 with h0
  subst h0
  exact hp

/-- the graph both conversions start from: the bare node list, no interaction -/
def c16_start (dir : Bool) (g : Graph) : Graph :=
  { Graph.empty dir true with nodes := g.nodes.map (fun (p : Node × Nat) => (p.1, 0)) }

/-- what a conversion establishes of its result `H`: class `dir`, presence relation `P` -/
structure c16_Conv (g H : Graph) (dir : Bool) (P : Node → Node → Int → Prop) : Prop where
  directed : H.directed = dir
  removal : H.removal = true
  wf : WF H
  nodes : H.nodes = g.nodes
  gattr : H.gattr = g.gattr
  presence : ∀ u v x, H.hasInteraction u v (some x) = true ↔ P u v x

/-- what both conversions do once they have their data `d`: replay its calls on the bare node list
    (`addMany_callsOf`) and put the node and graph attributes back -/
theorem c16_build {dir : Bool} (g : Graph) (d : List (Node × Node × List Span))
    (hk : d.Pairwise (fun p q => ¬ (sameKey dir p.1 p.2.1 q.1 q.2.1 = true))) (hc : ∀ p ∈ d, CanonAsc p.2.2)
    {P : Node → Node → Int → Prop}
    (hP : ∀ a b x, (∃ p ∈ d, sameKey dir p.1 p.2.1 a b = true ∧ memTl p.2.2 x) ↔ P a b x) :
    ∃ h0, (c16_start dir g).addMany (callsOf d) = (h0, none) ∧
      c16_Conv g { h0 with nodes := g.nodes, gattr := g.gattr } dir P := by
  obtain ⟨h0, hres, hinv, hpres⟩ := addMany_callsOf (c16_start dir g) rfl rfl d hk hc
  exact ⟨h0, hres, hinv.directed, hinv.removal, WF.congr hinv.wf rfl rfl, rfl, rfl,
    fun a b x => (hpres a b x).trans (hP a b x)⟩

theorem c16_toDirected_core {g : Graph} (h : WF g) (hr : g.removal = true) (hn : NodeInv g) :
    ∃ H, g.toDirected = .ok H ∧ c16_Conv g H true fun u v x =>
      (u, v) ∈ g.interactions none none ∧ g.hasInteraction u v (some x) = true := by
  have hcanon : ∀ p ∈ g.interactionsData, CanonAsc p.2.2 := by
    intro p hp
    obtain ⟨q, _, rfl⟩ := List.mem_map.mp hp
    exact h.timeline_canonAsc _ _
  have hkeys : g.interactionsData.Pairwise (fun p q => ¬ (sameKey true p.1 p.2.1 q.1 q.2.1 = true)) := by
    unfold Graph.interactionsData
    rw [List.pairwise_map]
    exact nodup_directed_keys (C02_interactions_nodup h hn.q2 none)
  have hread : ∀ u v x, (∃ p ∈ g.interactionsData, sameKey true p.1 p.2.1 u v = true ∧ memTl p.2.2 x) ↔
      ((u, v) ∈ g.interactions none none ∧ g.hasInteraction u v (some x) = true) := by
    intro u v x
    constructor
    · rintro ⟨p, hp, hk, hm⟩
      obtain ⟨q, hq, rfl⟩ := List.mem_map.mp hp
      rw [sameKey_directed_iff] at hk
      obtain ⟨rfl, rfl⟩ := hk
      exact ⟨hq, (h.memTl_timeline hr _ _ x).mp hm⟩
    · rintro ⟨hm, hx⟩
      exact ⟨(u, v, (g.timeline u v).getD []), List.mem_map_of_mem hm, sameKey_refl _ _ _,
        (h.memTl_timeline hr u v x).mpr hx⟩
  obtain ⟨h0, hres, c⟩ := c16_build g _ hkeys hcanon hread
  refine ⟨_, ?_, c⟩
  simp only [Graph.toDirected]
  -- `erw`: the model spells the calls with pattern-matching lambdas, `callsOf` with projections
  erw [hres]

/-- `to_directed()` raises nothing and returns a well-formed directed graph on the same nodes -/
theorem C16_toDirected_ok {g : Graph} (h : WF g) (hr : g.removal = true) (_hd : g.directed = false)
    (hn : NodeInv g) :
    ∃ H, g.toDirected = .ok H ∧ H.directed = true ∧ H.removal = true ∧ WF H ∧ H.nodes = g.nodes ∧
      H.gattr = g.gattr := by
  obtain ⟨H, h0, c⟩ := c16_toDirected_core h hr hn
  exact ⟨H, h0, c.directed, c.removal, c.wf, c.nodes, c.gattr⟩

/-- known finding D12: only the orientation under which `interactions_iter` yields the pair is created -/
theorem C16_toDirected_presence_partial {g : Graph} (h : WF g) (hr : g.removal = true)
    (_hd : g.directed = false) (hn : NodeInv g) {H : Graph} (hH : g.toDirected = .ok H) :
    ∀ u v x, H.hasInteraction u v (some x) = true ↔
      ((u, v) ∈ g.interactions none none ∧ g.hasInteraction u v (some x) = true) :=
  (c16_of_ok (c16_toDirected_core h hr hn) hH).presence

/-- every arc of the result is an interaction of the source -/
theorem C16_toDirected_sound {g : Graph} (h : WF g) (hr : g.removal = true)
    (hd : g.directed = false) (hn : NodeInv g) {H : Graph} (hH : g.toDirected = .ok H) (u v : Node) (x : Int)
    (hp : H.hasInteraction u v (some x) = true) : g.hasInteraction u v (some x) = true :=
  ((C16_toDirected_presence_partial h hr hd hn hH u v x).mp hp).2

/-- every interaction of the source is kept under at least one orientation -/
theorem C16_toDirected_some_orientation {g : Graph} (h : WF g) (hr : g.removal = true)
    (hd : g.directed = false) (hn : NodeInv g) {H : Graph} (hH : g.toDirected = .ok H) (u v : Node) (x : Int)
    (hp : g.hasInteraction u v (some x) = true) :
    H.hasInteraction u v (some x) = true ∨ H.hasInteraction v u (some x) = true := by
  have hflat : g.hasInteraction u v none = true := q1_has_some_flat _ _ _ _ hp
  rcases C02_interactions_complete hn.q2 hd none u v hflat with h1 | h1
  · exact Or.inl ((C16_toDirected_presence_partial h hr hd hn hH u v x).mpr ⟨h1, hp⟩)
  · exact Or.inr ((C16_toDirected_presence_partial h hr hd hn hH v u x).mpr
      ⟨h1, by rw [q1_has_symm g hd]; exact hp⟩)

/-- never both orientations (for `u ≠ v`): the result is not the symmetric digraph -/
theorem C16_toDirected_not_both {g : Graph} (h : WF g) (hr : g.removal = true)
    (hd : g.directed = false) (hn : NodeInv g) {H : Graph} (hH : g.toDirected = .ok H) (u v : Node) (x y : Int)
    (huv : u ≠ v) (h1 : H.hasInteraction u v (some x) = true) : H.hasInteraction v u (some y) = false := by
  cases h2 : H.hasInteraction v u (some y) with
  | false => rfl
  | true =>
    have m1 := ((C16_toDirected_presence_partial h hr hd hn hH u v x).mp h1).1
    have m2 := ((C16_toDirected_presence_partial h hr hd hn hH v u y).mp h2).1
    exact (huv (q2_go_antisymm m1 m2)).elim

/-- the single undirected interaction 1–2 on [0,1] -/
def c16_exD12 : Graph := ((Graph.empty false true).addInteraction 1 2 (some 0) (some 2)).1

/-- D12 on `c16_exD12`: 2–1 is present at instant 0; the converted graph has the arc 1→2 there and no arc 2→1 at
    all -/
theorem C16_toDirected_D12_witness :
    c16_exD12.hasInteraction 2 1 (some 0) = true ∧
    (c16_exD12.toDirected.toOption.map
      (fun H => (H.hasInteraction 1 2 (some 0), H.hasInteraction 2 1 (some 0), H.hasInteraction 2 1 none))) =
      some (true, false, false) := by decide

/-- the instants of the arc `u → v`: its `t` list expanded -/
def c16_inst (g : Graph) (u v : Node) : List Int := instants ((g.timeline u v).getD [])

/-- the value `merged[(u, v)]`: `sorted(set(..))` of the common (reciprocal) or of all instants of the two
    orientations -/
def c16_merged (g : Graph) (recip : Bool) (u v : Node) : List Int :=
  sortedSet (if recip then (c16_inst g u v).filter (fun x => (c16_inst g v u).contains x)
             else c16_inst g u v ++ c16_inst g v u)

/-- the loop that fills `merged`, over the pairs themselves and with the value written out: a pair whose mirror
    image has an entry is skipped -/
theorem c16_mergedGo_eq (g : Graph) (recip : Bool) (pairs : List (Node × Node))
    (acc : List (Node × Node × List Int)) :
    mergedGo g recip (dataOf g pairs) acc = pairs.foldl (fun acc p =>
      if acc.any (fun q => q.1 == p.2 && q.2.1 == p.1) then acc
      else acc ++ [(p.1, p.2, c16_merged g recip p.1 p.2)]) acc := by
  induction pairs generalizing acc with
  | nil => rfl
  | cons a rest ih =>
    rw [List.foldl_cons, ← ih, apply_ite (mergedGo g recip (dataOf g rest))]
    rfl

/-- the `merged` dictionary `R` after the pairs `pairs`, started from `acc`: one entry per unordered pair -/
structure c16_MergedOk (g : Graph) (recip : Bool) (pairs : List (Node × Node))
    (acc R : List (Node × Node × List Int)) : Prop where
  keys : R.Pairwise (fun p q => ¬ (sameKey false p.1 p.2.1 q.1 q.2.1 = true))
  entry : ∀ q ∈ R, q ∈ acc ∨ ((q.1, q.2.1) ∈ pairs ∧ q.2.2 = c16_merged g recip q.1 q.2.1)
  mono : ∀ q ∈ acc, q ∈ R
  complete : ∀ p ∈ pairs, ∃ q ∈ R, sameKey false q.1 q.2.1 p.1 p.2 = true

/-- the structure at `acc = []` is the invariant of the fold, indexed by the pairs done -/
theorem c16_mergedGo_spec (g : Graph) (recip : Bool) (pairs : List (Node × Node)) (hnd : pairs.Nodup) :
    c16_MergedOk g recip pairs [] (mergedGo g recip (dataOf g pairs) []) := by
  rw [c16_mergedGo_eq]
  refine foldl_prefix_inv _ (fun done st => c16_MergedOk g recip done [] st) ?_ pairs [] [] hnd
    ⟨.nil, List.forall_mem_nil _, List.forall_mem_nil _, List.forall_mem_nil _⟩
  rintro done ⟨u, v⟩ st hfresh ok
  have hentry : ∀ q ∈ st, q ∈ [] ∨ ((q.1, q.2.1) ∈ done ++ [(u, v)] ∧ q.2.2 = c16_merged g recip q.1 q.2.1) :=
    fun q hq => (ok.entry q hq).imp_right fun h => ⟨List.mem_append_left _ h.1, h.2⟩
  split
  · rename_i hany
    obtain ⟨q, hq, hqk⟩ := List.any_eq_true.mp hany
    rw [Bool.and_eq_true, beq_iff_eq, beq_iff_eq] at hqk
    refine ⟨ok.keys, hentry, List.forall_mem_nil _, fun p hp => ?_⟩
    rcases List.mem_append.mp hp with hp | hp
    · exact ok.complete p hp
    · rw [List.mem_singleton.mp hp]; exact ⟨q, hq, (sameKey_iff ..).mpr (.inr ⟨rfl, hqk.2, hqk.1⟩)⟩
  · rename_i hany
    refine { keys := List.pairwise_append.mpr ⟨ok.keys, List.pairwise_singleton _ _, fun q hq n hn hkey => ?_⟩
             entry := fun q hq => ?_, mono := List.forall_mem_nil _, complete := fun p hp => ?_ }
    · rw [List.mem_singleton.mp hn] at hkey
      -- same orientation: the pair would have come before; mirrored: the round would have skipped it
      rcases (sameKey_iff false _ _ _ _).mp hkey with hkey | ⟨_, h1, h2⟩
      · exact hfresh _ ((ok.entry q hq).resolve_left List.not_mem_nil).1 (Prod.ext hkey.1 hkey.2)
      · exact hany (List.any_eq_true.mpr ⟨q, hq, Bool.and_eq_true_iff.mpr ⟨beq_iff_eq.mpr h2, beq_iff_eq.mpr h1⟩⟩)
    · rcases List.mem_append.mp hq with hq | hq
      · exact hentry q hq
      · rw [List.mem_singleton.mp hq]; exact Or.inr ⟨List.mem_append_right _ List.mem_cons_self, rfl⟩
    · rcases List.mem_append.mp hp with hp | hp
      · exact (ok.complete p hp).imp fun q h => ⟨List.mem_append_left _ h.1, h.2⟩
      · rw [List.mem_singleton.mp hp]
        exact ⟨_, List.mem_append_right _ List.mem_cons_self, sameKey_refl _ _ _⟩

theorem c16_mem_inst {g : Graph} (h : WF g) (hr : g.removal = true) (u v : Node) (x : Int) :
    x ∈ c16_inst g u v ↔ g.hasInteraction u v (some x) = true := by
  unfold c16_inst
  rw [mem_instants, h.memTl_timeline hr]

/-- what `to_undirected(reciprocal)` keeps of the pair `u`, `v` -/
def c16_keeps (g : Graph) (recip : Bool) (u v : Node) (x : Int) : Prop :=
  if recip then g.hasInteraction u v (some x) = true ∧ g.hasInteraction v u (some x) = true
  else g.hasInteraction u v (some x) = true ∨ g.hasInteraction v u (some x) = true

theorem c16_mem_merged {g : Graph} (h : WF g) (hr : g.removal = true) (recip : Bool) (u v : Node) (x : Int) :
    x ∈ c16_merged g recip u v ↔ c16_keeps g recip u v x := by
  unfold c16_merged c16_keeps
  rw [(c16_sortedSet _).1]
  cases recip
  · simp only [Bool.false_eq_true, if_false, List.mem_append, c16_mem_inst h hr]
  · simp only [if_true, List.mem_filter, List.contains_eq_mem, decide_eq_true_eq, c16_mem_inst h hr]

/-- the data are the runs of the `merged` sets; an entry answers for both orientations of its pair, and `c16_keeps`
    is symmetric, so it does not matter which orientation the loop met first -/
theorem c16_toUndirected_core {g : Graph} (h : WF g) (hr : g.removal = true) (hn : NodeInv g) (recip : Bool) :
    ∃ H, g.toUndirected recip = .ok H ∧ c16_Conv g H false (c16_keeps g recip) := by
  have hsym : ∀ u v x, c16_keeps g recip u v x → c16_keeps g recip v u x := by
    cases recip <;> exact fun _ _ _ hp => hp.symm
  have hflat : ∀ u v x, c16_keeps g recip u v x →
      g.hasInteraction u v none = true ∨ g.hasInteraction v u none = true := by
    cases recip
    · exact fun _ _ _ hp => hp.imp (q1_has_some_flat _ _ _ _) (q1_has_some_flat _ _ _ _)
    · exact fun _ _ _ hp => Or.inl (q1_has_some_flat _ _ _ _ hp.1)
  have hn2 := hn.q2
  have ok := c16_mergedGo_spec g recip _ (C02_outInteractions_nodup h hn2 none)
  generalize hm : mergedGo g recip (dataOf g (g.outInteractions none none)) [] = m at ok
  have hentry : ∀ q ∈ m, (q.1, q.2.1) ∈ g.outInteractions none none ∧
      q.2.2 = c16_merged g recip q.1 q.2.1 := fun q hq => (ok.entry q hq).resolve_left List.not_mem_nil
  have hstrict : ∀ q ∈ m, q.2.2.Pairwise (· < ·) := by
    intro q hq
    rw [(hentry q hq).2]
    exact (c16_sortedSet _).2
  have hcanon : ∀ p ∈ m.map (fun q => (q.1, q.2.1, runsOf q.2.2)), CanonAsc p.2.2 := by
    intro p hp
    obtain ⟨q, hq, rfl⟩ := List.mem_map.mp hp
    exact (c16_runsOf_spec _ (hstrict q hq)).1
  suffices hread : ∀ a b x, (∃ p ∈ m.map (fun q => (q.1, q.2.1, runsOf q.2.2)),
      sameKey false p.1 p.2.1 a b = true ∧ memTl p.2.2 x) ↔ c16_keeps g recip a b x by
    obtain ⟨h0, hres, c⟩ :=
      c16_build (dir := false) g _ (by rw [List.pairwise_map]; exact ok.keys) hcanon hread
    refine ⟨_, ?_, c⟩
    rw [callsOf, List.flatMap_map] at hres
    simp only [Graph.toUndirected]
    erw [hm, hres]
  intro a b x
  have hmem : ∀ q ∈ m, memTl (runsOf q.2.2) x ↔ c16_keeps g recip q.1 q.2.1 x := fun q hq => by
    rw [c16_memTl_runsOf (hstrict q hq), (hentry q hq).2, c16_mem_merged h hr]
  have hPk : ∀ {u v u' v' : Node}, sameKey false u v u' v' = true →
      c16_keeps g recip u v x → c16_keeps g recip u' v' x := by
    intro u v u' v' hk hp
    rcases (sameKey_iff false u v u' v').mp hk with ⟨e1, e2⟩ | ⟨_, e1, e2⟩
    · rw [← e1, ← e2]; exact hp
    · rw [← e1, ← e2]; exact hsym _ _ _ hp
  constructor
  · rintro ⟨p, hp, hk, hm⟩
    obtain ⟨q, hq, rfl⟩ := List.mem_map.mp hp
    exact hPk hk ((hmem q hq).mp hm)
  · intro hp
    have hcomp : ∀ u v, g.hasInteraction u v none = true → ∃ q ∈ m, sameKey false q.1 q.2.1 u v = true :=
      fun u v hf => ok.complete (u, v) ((C02_outInteractions_directed hn2 none u v).mpr hf)
    obtain ⟨q, hq, hk⟩ : ∃ q ∈ m, sameKey false q.1 q.2.1 a b = true := by
      rcases hflat a b x hp with hf | hf
      · exact hcomp a b hf
      · simp only [sameKey_swap_undirected _ _ a b]
        exact hcomp b a hf
    exact ⟨_, List.mem_map_of_mem hq, hk, (hmem q hq).mpr (hPk (sameKey_symm_of hk) hp)⟩

/-- `to_undirected(reciprocal)` raises nothing and returns a well-formed undirected graph on the same nodes -/
theorem C16_toUndirected_ok {g : Graph} (h : WF g) (hr : g.removal = true) (_hd : g.directed = true)
    (hn : NodeInv g) (recip : Bool) :
    ∃ H, g.toUndirected recip = .ok H ∧ H.directed = false ∧ H.removal = true ∧ WF H ∧
      H.nodes = g.nodes ∧ H.gattr = g.gattr := by
  obtain ⟨H, h0, c⟩ := c16_toUndirected_core h hr hn recip
  exact ⟨H, h0, c.directed, c.removal, c.wf, c.nodes, c.gattr⟩

/-- `reciprocal=False`: the pair is present exactly when one of the two orientations is -/
theorem C16_toUndirected_presence {g : Graph} (h : WF g) (hr : g.removal = true) (_hd : g.directed = true)
    (hn : NodeInv g) {H : Graph} (hH : g.toUndirected false = .ok H) :
    ∀ u v x, H.hasInteraction u v (some x) = true ↔
      (g.hasInteraction u v (some x) = true ∨ g.hasInteraction v u (some x) = true) :=
  (c16_of_ok (c16_toUndirected_core h hr hn false) hH).presence

/-- `reciprocal=True`: the pair is present exactly when both orientations are -/
theorem C16_toUndirected_presence_reciprocal {g : Graph} (h : WF g) (hr : g.removal = true)
    (_hd : g.directed = true) (hn : NodeInv g) {H : Graph} (hH : g.toUndirected true = .ok H) :
    ∀ u v x, H.hasInteraction u v (some x) = true ↔
      (g.hasInteraction u v (some x) = true ∧ g.hasInteraction v u (some x) = true) :=
  (c16_of_ok (c16_toUndirected_core h hr hn true) hH).presence

/-- the exposed timelines of the graph returned by either conversion are canonical, and their union is
    the presence set of the pair -/
theorem C16_canonical {g : Graph} (h : WF g) (hr : g.removal = true) (hn : NodeInv g) {H : Graph}
    (hH : g.toDirected = .ok H ∨ ∃ recip, g.toUndirected recip = .ok H) :
    ∀ u v tl, H.timeline u v = some tl →
      (CanonAsc tl ∧ ∀ x, memTl tl x ↔ H.hasInteraction u v (some x) = true) := by
  rcases hH with hH | ⟨recip, hH⟩
  · have c := c16_of_ok (c16_toDirected_core h hr hn) hH
    exact fun u v tl => c.wf.timeline_some c.removal
  · have c := c16_of_ok (c16_toUndirected_core h hr hn recip) hH
    exact fun u v tl => c.wf.timeline_some c.removal

/-- `to_directed()` after an arbitrary history of `add_interaction(s)` calls on a `DynGraph` -/
theorem C16_history_toDirected (ops : List Op) :
    let g := ((Graph.empty false true).run ops).1
    ∃ H, g.toDirected = .ok H ∧ H.directed = true ∧ H.removal = true ∧ WF H ∧ H.nodes = g.nodes ∧
      H.gattr = g.gattr ∧
      (∀ u v x, H.hasInteraction u v (some x) = true ↔
        ((u, v) ∈ g.interactions none none ∧ g.hasInteraction u v (some x) = true)) ∧
      (∀ u v x, (H.hasInteraction u v (some x) = true ∨ H.hasInteraction v u (some x) = true) ↔
        inLog false ((Graph.empty false true).runLog ops) u v x) ∧
      (∀ u v tl, H.timeline u v = some tl → CanonAsc tl) := by
  intro g
  have r := history_ok false ops
  have hn : NodeInv g := q1_run_nodeInv _ true ops
  have hd : g.directed = false := r.directed
  obtain ⟨H, h0, c⟩ := c16_toDirected_core r.wf r.removal hn
  refine ⟨H, h0, c.directed, c.removal, c.wf, c.nodes, c.gattr, c.presence, ?_, ?_⟩
  · intro u v x
    rw [← presence_history false ops u v x]
    constructor
    · rintro (hp | hp)
      · exact C16_toDirected_sound r.wf r.removal hd hn h0 u v x hp
      · rw [q1_has_symm g hd]; exact C16_toDirected_sound r.wf r.removal hd hn h0 v u x hp
    · exact C16_toDirected_some_orientation r.wf r.removal hd hn h0 u v x
  · exact fun u v tl ht => (c.wf.timeline_some c.removal ht).1

/-- `to_undirected(reciprocal)` after an arbitrary history on a `DynDiGraph` -/
theorem C16_history_toUndirected (ops : List Op) (recip : Bool) :
    let g := ((Graph.empty true true).run ops).1
    ∃ H, g.toUndirected recip = .ok H ∧ H.directed = false ∧ H.removal = true ∧ WF H ∧
      H.nodes = g.nodes ∧ H.gattr = g.gattr ∧
      (recip = false → ∀ u v x, H.hasInteraction u v (some x) = true ↔
        (g.hasInteraction u v (some x) = true ∨ g.hasInteraction v u (some x) = true)) ∧
      (recip = true → ∀ u v x, H.hasInteraction u v (some x) = true ↔
        (g.hasInteraction u v (some x) = true ∧ g.hasInteraction v u (some x) = true)) ∧
      (recip = false → ∀ u v x, H.hasInteraction u v (some x) = true ↔
        (inLog true ((Graph.empty true true).runLog ops) u v x ∨
          inLog true ((Graph.empty true true).runLog ops) v u x)) ∧
      (recip = true → ∀ u v x, H.hasInteraction u v (some x) = true ↔
        (inLog true ((Graph.empty true true).runLog ops) u v x ∧
          inLog true ((Graph.empty true true).runLog ops) v u x)) ∧
      (∀ u v tl, H.timeline u v = some tl → CanonAsc tl) := by
  intro g
  have r := history_ok true ops
  have hn : NodeInv g := q1_run_nodeInv _ true ops
  have hlog := presence_history true ops
  obtain ⟨H, h0, c⟩ := c16_toUndirected_core r.wf r.removal hn recip
  have h6 := c.presence
  refine ⟨H, h0, c.directed, c.removal, c.wf, c.nodes, c.gattr, ?_, ?_, ?_, ?_,
    fun u v tl ht => (c.wf.timeline_some c.removal ht).1⟩
  · rintro rfl; exact h6
  · rintro rfl; exact h6
  · rintro rfl u v x
    rw [← hlog, ← hlog]; exact h6 u v x
  · rintro rfl u v x
    rw [← hlog, ← hlog]; exact h6 u v x

/-- summary over histories: neither conversion raises; the result has the other class, is well formed
    (removal mode), keeps `_node` and the graph attributes, and exposes canonical timelines
    (presence: `C16_history_toDirected`, `C16_history_toUndirected`) -/
theorem C16_history (ops : List Op) :
    (let g := ((Graph.empty false true).run ops).1
     ∃ H, g.toDirected = .ok H ∧ H.directed = true ∧ H.removal = true ∧ WF H ∧ H.nodes = g.nodes ∧
      H.gattr = g.gattr ∧ (∀ u v tl, H.timeline u v = some tl → CanonAsc tl)) ∧
    (let g := ((Graph.empty true true).run ops).1
     ∀ recip, ∃ H, g.toUndirected recip = .ok H ∧ H.directed = false ∧ H.removal = true ∧ WF H ∧
      H.nodes = g.nodes ∧ H.gattr = g.gattr ∧ (∀ u v tl, H.timeline u v = some tl → CanonAsc tl)) := by
  constructor
  · obtain ⟨H, h0, h1, h2, h3, h4, h5, _, _, h8⟩ := C16_history_toDirected ops
    exact ⟨H, h0, h1, h2, h3, h4, h5, h8⟩
  · intro g recip
    obtain ⟨H, h0, h1, h2, h3, h4, h5, _, _, _, _, h10⟩ := C16_history_toUndirected ops recip
    exact ⟨H, h0, h1, h2, h3, h4, h5, h10⟩

/-- directed: 0→1 on [5,8] and 1→0 on [2,3] -/
def c16_exU : Graph :=
  (((Graph.empty true true).addInteraction 0 1 (some 5) (some 9)).1.addInteraction 1 0 (some 2) (some 4)).1

example : runsOf [2, 3, 5, 6, 7, 8] = [(2, 3), (5, 8)] ∧ runsOf [] = [] ∧ runsOf [4] = [(4, 4)] := by decide

/-- two stored orientations of one unordered pair give one entry of `merged` (first orientation met wins) -/
theorem c16_merged_two (g : Graph) (recip : Bool) (u v : Node)
    (hd : g.outInteractions none none = [(u, v), (v, u)]) :
    mergedGo g recip g.outInteractionsData [] = [(u, v, c16_merged g recip u v)] := by
  show mergedGo g recip (dataOf g (g.outInteractions none none)) [] = _
  rw [hd, c16_mergedGo_eq]
  -- the two rounds reduce by themselves: the first appends the entry, the second finds it as the mirror
  exact if_pos (List.any_eq_true.mpr ⟨_, .head _, by simp⟩)

/-- the union merges the two orientations into one ascending timeline; the reciprocal version keeps nothing -/
theorem C16_toUndirected_witness :
    ((c16_exU.toUndirected false).toOption.map (fun H => (H.timeline 0 1, H.timeline 1 0, H.nodes))) =
      some (some [(2, 3), (5, 8)], some [(2, 3), (5, 8)], c16_exU.nodes) ∧
    ((c16_exU.toUndirected true).toOption.map (fun H => (H.timeline 0 1, H.edges, H.nodes))) =
      some (none, [], c16_exU.nodes) := by
  have hd : c16_exU.outInteractions none none = [(0, 1), (1, 0)] := by decide
  have h1 : c16_merged c16_exU false 0 1 = [2, 3, 5, 6, 7, 8] :=
    c16_sortedSet_eq (by decide) (by decide) (by decide)
  have h2 : c16_merged c16_exU true 0 1 = [] := c16_sortedSet_eq (by decide) (by decide) (by decide)
  simp only [Graph.toUndirected]
  rw [c16_merged_two _ _ 0 1 hd, c16_merged_two _ _ 0 1 hd, h1, h2]
  constructor
  · decide
  · decide

/-- overlapping orientations: 0→1 on [1,5], 1→0 on [4,9] give [1,9] resp. [4,5] -/
def c16_exU2 : Graph :=
  (((Graph.empty true true).addInteraction 0 1 (some 1) (some 6)).1.addInteraction 1 0 (some 4) (some 10)).1

theorem C16_toUndirected_witness_overlap :
    ((c16_exU2.toUndirected false).toOption.map (fun H => H.timeline 0 1)) = some (some [(1, 9)]) ∧
    ((c16_exU2.toUndirected true).toOption.map (fun H => H.timeline 1 0)) = some (some [(4, 5)]) := by
  have hd : c16_exU2.outInteractions none none = [(0, 1), (1, 0)] := by decide
  have h1 : c16_merged c16_exU2 false 0 1 = [1, 2, 3, 4, 5, 6, 7, 8, 9] :=
    c16_sortedSet_eq (by decide) (by decide) (by decide)
  have h2 : c16_merged c16_exU2 true 0 1 = [4, 5] := c16_sortedSet_eq (by decide) (by decide) (by decide)
  simp only [Graph.toUndirected]
  rw [c16_merged_two _ _ 0 1 hd, c16_merged_two _ _ 0 1 hd, h1, h2]
  constructor
  · decide
  · decide

end Dynetx
