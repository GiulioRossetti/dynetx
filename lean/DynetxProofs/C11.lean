import DynetxProofs.C09
/- C11: node-link data (`node_link_data` / `node_link_graph`), on the snapshot rows of C09; a node carries an attribute
   token here, attribute names are in C11Attrs. -/
namespace Dynetx

theorem c11_addMany_nodes_of_known (g : Graph) (calls : List Call4)
    (hk : ∀ c ∈ calls, g.hasNodeFlat c.1 = true ∧ g.hasNodeFlat c.2.1 = true) :
    (g.addMany calls).1.nodes = g.nodes := by
  refine addMany_induction (P := fun g' => g'.nodes = g.nodes) calls rfl fun g' h c hc => ?_
  rcases (addInteraction_frame g' c.1 c.2.1 (some c.2.2.1) c.2.2.2).nodes with h1 | h1
  · exact h1.trans h
  · obtain ⟨hu, hv⟩ := hk c hc
    unfold Graph.hasNodeFlat ensureNode at *
    rw [h1, h, if_pos hu, if_pos hv]

theorem c11_nodeLoop_directed (ns : List (Node × Nat)) (g0 : Graph) :
    (ns.foldl (fun g (p : Node × Nat) => (g.addNode p.1).setAttr p.1 p.2) g0).directed = g0.directed := by
  obtain ⟨ns', h⟩ := nodeLoop_frame ns g0
  rw [h]

theorem c11_step_fresh (g : Graph) (p : Node × Nat) (hf : ∀ q ∈ g.nodes, ¬ (q.1 == p.1) = true) :
    (g.addNode p.1).setAttr p.1 p.2 = { g with nodes := g.nodes ++ [p] } := by
  -- `add_node` appends `(p.1, 0)` (the `any` test fails by `hf`); the attribute write then finds `p.1` and maps over the
  -- table, replacing that last entry and, by the `rw`, nothing before it
  simp only [Graph.addNode, ensureNode, Graph.setAttr, List.any_eq_false.mpr hf, Bool.false_eq_true, if_false,
    List.any_append, List.any_cons, beq_self_eq_true, Bool.true_or, Bool.or_true, if_true, List.map_append,
    List.map_cons, List.map_nil]
  rw [List.map_congr_left (g := fun q => q) fun q hq => if_neg (hf q hq), List.map_id']

/-- the node loop of `node_link_graph` on a table with distinct names puts the table in place as it is -/
theorem c11_nodeLoop (ns : List (Node × Nat)) (g0 : Graph) (hnd : (ns.map (·.1)).Nodup) (h0 : g0.nodes = []) :
    ns.foldl (fun g (p : Node × Nat) => (g.addNode p.1).setAttr p.1 p.2) g0 = { g0 with nodes := ns } :=
  foldl_prefix_inv (R := fun a b : Node × Nat => a.1 ≠ b.1)
    (fun g (p : Node × Nat) => (g.addNode p.1).setAttr p.1 p.2) (fun done g => g = { g0 with nodes := done })
    (fun done a g hne hg => by
      rw [c11_step_fresh g a (by rw [hg]; exact fun q hq hc => hne q hq (eq_of_beq hc)), hg])
    ns [] g0 (List.pairwise_map.mp hnd) (by rw [← h0])

/-- C11 (`node_link_data`): the four fields are copies, the links being the snapshot rows of C09 -/
theorem C11_fields (g : Graph) :
    g.nodeLinkData.links = g.genSnapshots ∧ g.nodeLinkData.directed = some g.directed ∧
    g.nodeLinkData.nodes = g.nodes ∧ g.nodeLinkData.gattr = g.gattr := ⟨rfl, rfl, rfl, rfl⟩

section data
variable {g : Graph} (h : WF g) (hr : g.removal = true) (hn : NodeInv g)
include h hr hn

theorem c11_link_nodes {r : Node × Node × Int} (hm : r ∈ g.genSnapshots) :
    g.hasNodeFlat r.1 = true ∧ g.hasNodeFlat r.2.1 = true := by
  rw [c09_genSnapshots_eq] at hm
  exact q1_node_of_flat hn.endpoints
    ((c09_rows_iff (c06_dataOk h hr hn) _ _ _).mp ⟨r, hm, sameKey_refl _ _ _, rfl⟩)

/-- the links: exactly one per interaction and instant (oriented as in `g` when directed, one of the two orientations when
    undirected), between recorded nodes; the node table records isolated nodes too -/
theorem C11_links :
    g.nodeLinkData.links = g.genSnapshots ∧
    g.nodeLinkData.directed = some g.directed ∧
    g.nodeLinkData.nodes = g.nodes ∧
    g.nodeLinkData.gattr = g.gattr ∧
    (g.directed = true →
      (∀ u v x, (u, v, x) ∈ g.nodeLinkData.links ↔ g.hasInteraction u v (some x) = true) ∧
      g.nodeLinkData.links.Nodup) ∧
    (g.directed = false →
      (∀ u v x, ((u, v, x) ∈ g.nodeLinkData.links ∨ (v, u, x) ∈ g.nodeLinkData.links) ↔
        g.hasInteraction u v (some x) = true) ∧
      g.nodeLinkData.links.Pairwise
        (fun r s => ¬ (sameKey false r.1 r.2.1 s.1 s.2.1 = true ∧ r.2.2 = s.2.2))) ∧
    (∀ r ∈ g.nodeLinkData.links, g.hasNodeFlat r.1 = true ∧ g.hasNodeFlat r.2.1 = true) :=
  ⟨rfl, rfl, rfl, rfl, C09_rows_directed h hr hn, C09_rows_undirected h hr hn, fun _ => c11_link_nodes h hr hn⟩

/-- C11 (round trip): `node_link_graph(node_link_data(G))` raises nothing and has the class, the graph attribute,
    the node table (order and attribute tokens) and the presence relation of `G`, for any `G` with the invariants -/
theorem C11_roundtrip (dflt : Bool) :
    ∃ H, nodeLinkGraph g.nodeLinkData dflt = (H, none) ∧ H.directed = g.directed ∧ H.gattr = g.gattr ∧
      H.nodes = g.nodes ∧ WF H ∧
      ∀ u v x, H.hasInteraction u v (some x) = g.hasInteraction u v (some x) := by
  -- after the node loop: the snapshot reader's fresh graph, with the node table of `g` in place
  have hg1 := c11_nodeLoop g.nodes { Graph.empty g.directed true with gattr := g.gattr } hn.nodup rfl
  obtain ⟨H, hres, hwf, hdir, hpres⟩ := c09_roundtrip_gen (c06_dataOk h hr hn)
    { Graph.empty g.directed true with gattr := g.gattr, nodes := g.nodes } rfl rfl rfl
  rw [← c09_genSnapshots_eq] at hres
  have hH : nodeLinkGraph g.nodeLinkData dflt = (H, none) := (congrArg (Graph.addMany · _) hg1).trans hres
  obtain rfl := congrArg Prod.fst hres
  refine ⟨_, hH, hdir, addMany_gattr .., ?_, hwf, hpres⟩
  refine c11_addMany_nodes_of_known _ _ fun c hc => ?_
  obtain ⟨r, hrm, rfl⟩ := List.mem_map.mp hc
  exact c11_link_nodes h hr hn hrm

end data

/-- the `directed` argument is used only when the data does not say (no hypothesis on `g` needed: the
    class of the result is fixed before the first link is read, whatever happens afterwards) -/
theorem C11_directed_default (g : Graph) (dflt : Bool) :
    (nodeLinkGraph { g.nodeLinkData with directed := none } dflt).1.directed = dflt ∧
    (nodeLinkGraph g.nodeLinkData dflt).1.directed = g.directed :=
  ⟨(addMany_directed ..).trans (c11_nodeLoop_directed ..), (addMany_directed ..).trans (c11_nodeLoop_directed ..)⟩

/-- for the graph reached by any history of the add family (removal mode) -/
theorem C11_history (d dflt : Bool) (ops : List Op) :
    ∃ H, nodeLinkGraph ((Graph.empty d true).run ops).1.nodeLinkData dflt = (H, none) ∧
      H.directed = d ∧ H.gattr = ((Graph.empty d true).run ops).1.gattr ∧
      H.nodes = ((Graph.empty d true).run ops).1.nodes ∧ WF H ∧
      ∀ u v x, H.hasInteraction u v (some x) =
        ((Graph.empty d true).run ops).1.hasInteraction u v (some x) := by
  have r := history_ok d ops
  have := C11_roundtrip r.wf r.removal (q1_run_nodeInv d true ops) dflt
  rwa [show _ = d from r.directed] at this

/-- the same (graph attribute aside) when `add_node(n)` and an attribute write on `n` come between two histories -/
theorem C11_history_nodes (d dflt : Bool) (ops ops' : List Op) (n : Node) (a : Nat) :
    ∃ H, nodeLinkGraph (((((Graph.empty d true).run ops).1.addNode n).setAttr n a).run ops').1.nodeLinkData dflt
        = (H, none) ∧
      H.directed = d ∧
      H.nodes = (((((Graph.empty d true).run ops).1.addNode n).setAttr n a).run ops').1.nodes ∧ WF H ∧
      ∀ u v x, H.hasInteraction u v (some x) =
        (((((Graph.empty d true).run ops).1.addNode n).setAttr n a).run ops').1.hasInteraction u v (some x) := by
  have r := history_ok d ops
  have hn2 := setAttr_nodeInv (addNode_nodeInv (q1_run_nodeInv d true ops) n) n a
  -- the node operations touch `nodes` only
  obtain ⟨ns, hs⟩ := setAttr_frame (((Graph.empty d true).run ops).1.addNode n) n a
  rw [hs] at hn2 ⊢
  have r' := run_ok { ((Graph.empty d true).run ops).1.addNode n with nodes := ns } (WF.congr r.wf rfl rfl)
    r.removal ops'
  obtain ⟨H, h1, h2, _, h4, h5, h6⟩ := C11_roundtrip r'.wf r'.removal (run_nodeInv _ hn2 ops') dflt
  exact ⟨H, h1, h2.trans (r'.directed.trans r.directed), h4, h5, h6⟩

example : c09_demo.nodes = [(1, 0), (2, 0), (7, 4)] ∧ c09_demo.nodeLinkData.links = [(1, 2, 2), (1, 2, 3)] ∧
    c09_demo.nodeLinkData.nodes = [(1, 0), (2, 0), (7, 4)] ∧
    c09_demo.nodeLinkData.directed = some false := by decide

example : (nodeLinkGraph c09_demo.nodeLinkData true).2 = none ∧
    (nodeLinkGraph c09_demo.nodeLinkData true).1.nodes = c09_demo.nodes ∧
    (nodeLinkGraph c09_demo.nodeLinkData true).1.directed = false ∧
    (nodeLinkGraph c09_demo.nodeLinkData true).1.edges = c09_demo.edges := by decide

/-- without the `directed` key the argument decides -/
example : (nodeLinkGraph { c09_demo.nodeLinkData with directed := none } true).1.directed = true ∧
    (nodeLinkGraph { c09_demo.nodeLinkData with directed := none } false).1.directed = false := by decide

/-- when the `directed` key is missing and the argument says "undirected", the links of a directed graph need not be
    readable: 1→2 at 5 then 2→1 at 3 is an out-of-order call for the unordered pair -/
example :
    (nodeLinkGraph { ((((Graph.empty true true).addInteraction 1 2 (some 5) none).1.addInteraction 2 1
        (some 3) none).1).nodeLinkData with directed := none } false).2 = some .value := by decide

end Dynetx
