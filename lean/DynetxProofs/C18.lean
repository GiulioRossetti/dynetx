-- C18: compact_timeslot is a strictly increasing bijection onto 0..k-1 for duplicate-free input
import DynetxProofs.Lemmas.Lists

namespace Dynetx

open List

theorem c18_assocSet_fresh (m : List (Int × Nat)) (k : Int) (v : Nat)
    (h : ∀ p ∈ m, p.1 ≠ k) : assocSet m k v = m ++ [(k, v)] := by
  induction m with
  | nil => rfl
  | cons p rest ih =>
    obtain ⟨k', v'⟩ := p
    rw [assocSet, if_neg (mt eq_of_beq (h _ List.mem_cons_self)), ih fun p hp => h p (List.mem_cons_of_mem _ hp)]
    rfl

/-- Python's `sorted(l)` as the model spells it in `compactTimeslot` (and in `Graph.ids`): a name for the term, with the
    three facts the proofs use of it -/
def C18_sorted (l : List Int) : List Int := l.mergeSort (fun a b => decide (a ≤ b))

theorem C18_sorted_perm (l : List Int) : C18_sorted l ~ l := List.mergeSort_perm _ _

theorem c18_sorted_nodup (l : List Int) (hnd : l.Nodup) : (C18_sorted l).Nodup :=
  (C18_sorted_perm l).nodup_iff.mpr hnd

theorem C18_sorted_pairwise_le (l : List Int) : (C18_sorted l).Pairwise (fun a b => a ≤ b) :=
  pairwise_mergeSort_key_le (fun a : Int => a) l

theorem C18_sorted_pairwise_lt (l : List Int) (hnd : l.Nodup) :
    (C18_sorted l).Pairwise (fun a b => a < b) :=
  ((C18_sorted_pairwise_le l).and (c18_sorted_nodup l hnd)).imp Int.lt_iff_le_and_ne.mpr

/-- every key is new when it is set, so the dict comprehension only appends -/
theorem c18_compact_eq (l : List Int) (hnd : l.Nodup) :
    compactTimeslot l = (C18_sorted l).zipIdx := by
  have hp : (C18_sorted l).zipIdx.Pairwise (fun p q => p.1 ≠ q.1) :=
    List.pairwise_map.mp (by rw [List.zipIdx_map_fst]; exact c18_sorted_nodup l hnd)
  exact foldl_prefix_inv (fun m (p : Int × Nat) => assocSet m p.1 p.2) (fun done st => st = done)
    (fun done a st hlt h => h.symm ▸ c18_assocSet_fresh done a.1 a.2 hlt) _ [] [] hp rfl

theorem c18_rank_iff (l : List Int) (hnd : l.Nodup) (t : Int) (i : Nat) :
    rankOf (compactTimeslot l) t = some i ↔ ∃ h : i < (C18_sorted l).length, (C18_sorted l)[i] = t := by
  rw [c18_compact_eq l hnd]
  show ((C18_sorted l).zipIdx.find? (fun p => p.1 == t)).map (·.2) = some i ↔ _
  rw [← List.findIdx?_eq_fst_find?_zipIdx (p := (· == t))]
  refine List.idxOf?_eq_some_iff.trans (exists_congr fun h => and_iff_left_of_imp fun h1 j hj => ?_)
  -- strictly sorted: no earlier position holds `t`
  exact h1 ▸ Int.ne_of_lt (List.pairwise_iff_getElem.mp (C18_sorted_pairwise_lt l hnd) j i (Nat.lt_trans hj h) h hj)

theorem c18_count_below (tls : List Int) (hs : tls.Pairwise (fun a b => a < b)) (i : Nat) (hi : i < tls.length) :
    (tls.filter (fun s => decide (s < tls[i]))).length = i := by
  induction tls generalizing i with
  | nil => exact absurd hi (Nat.not_lt_zero _)
  | cons a rest ih =>
    have hp := List.pairwise_cons.mp hs
    cases i with
    | zero =>
      rw [List.getElem_cons_zero, List.filter_eq_nil_iff.mpr, List.length_nil]
      intro x hx
      rcases List.mem_cons.mp hx with rfl | hx
      · exact fun h => Int.lt_irrefl _ (of_decide_eq_true h)
      · exact fun h => Int.lt_asymm (hp.1 x hx) (of_decide_eq_true h)
    | succ i =>
      have hi' : i < rest.length := Nat.lt_of_succ_lt_succ hi
      rw [List.getElem_cons_succ, List.filter_cons, if_pos (decide_eq_true (hp.1 rest[i] (List.getElem_mem hi'))),
        List.length_cons, ih hp.2 i hi']

/-- C18 (ranks): `compact_timeslot` numbers a timestamp of a duplicate-free list by how many timestamps are
    smaller; anything else is no key of the returned dict -/
theorem C18_rank (l : List Int) (hnd : l.Nodup) (t : Int) :
    rankOf (compactTimeslot l) t =
      if t ∈ l then some ((l.filter (fun s => decide (s < t))).length) else none := by
  have hperm := C18_sorted_perm l
  by_cases hm : t ∈ l
  · obtain ⟨i, h, rfl⟩ := List.getElem_of_mem (hperm.mem_iff.mpr hm)
    rw [if_pos hm, ← (hperm.filter _).length_eq, c18_count_below _ (C18_sorted_pairwise_lt l hnd) i h]
    exact (c18_rank_iff l hnd _ i).mpr ⟨h, rfl⟩
  · rw [if_neg hm]
    cases hr : rankOf (compactTimeslot l) t with
    | none => rfl
    | some i =>
      obtain ⟨h, rfl⟩ := (c18_rank_iff l hnd t i).mp hr
      exact absurd (hperm.mem_iff.mp (List.getElem_mem h)) hm

/-- C18 (order): the renumbering keeps the order of the timestamps -/
theorem C18_strictMono (l : List Int) (hnd : l.Nodup) (s t : Int) (i j : Nat)
    (hs : rankOf (compactTimeslot l) s = some i) (ht : rankOf (compactTimeslot l) t = some j) :
    s < t ↔ i < j := by
  obtain ⟨hi, rfl⟩ := (c18_rank_iff l hnd s i).mp hs
  obtain ⟨hj, rfl⟩ := (c18_rank_iff l hnd t j).mp ht
  have hlt := List.pairwise_iff_getElem.mp (C18_sorted_pairwise_lt l hnd)
  constructor
  · intro h
    rcases Nat.lt_trichotomy i j with h' | h' | h'
    · exact h'
    · subst h'; exact absurd h (Int.lt_irrefl _)
    · exact absurd h (Int.lt_asymm (hlt j i hj hi h'))
  · exact hlt i j hi hj

/-- C18 (injective): two timestamps never get the same number -/
theorem C18_injective (l : List Int) (hnd : l.Nodup) (s t : Int) (i : Nat)
    (hs : rankOf (compactTimeslot l) s = some i) (ht : rankOf (compactTimeslot l) t = some i) :
    s = t := by
  obtain ⟨_, rfl⟩ := (c18_rank_iff l hnd s i).mp hs
  obtain ⟨_, rfl⟩ := (c18_rank_iff l hnd t i).mp ht
  rfl

/-- C18 (onto): the numbers used are exactly `0 .. len(l) - 1` -/
theorem C18_onto (l : List Int) (hnd : l.Nodup) (i : Nat) :
    i < l.length ↔ ∃ t ∈ l, rankOf (compactTimeslot l) t = some i := by
  have hperm := C18_sorted_perm l
  rw [← hperm.length_eq]
  constructor
  · intro hi
    exact ⟨_, hperm.mem_iff.mp (List.getElem_mem hi), (c18_rank_iff l hnd _ i).mpr ⟨hi, rfl⟩⟩
  · rintro ⟨t, _, ht⟩
    obtain ⟨hi, _⟩ := (c18_rank_iff l hnd t i).mp ht
    exact hi

/-- C18 (keys): the keys of the returned dict are the timestamps of the input, each once -/
theorem C18_keys (l : List Int) (hnd : l.Nodup) :
    (compactTimeslot l).map (·.1) ~ l ∧ ((compactTimeslot l).map (·.1)).Nodup := by
  rw [c18_compact_eq l hnd, List.zipIdx_map_fst]
  exact ⟨C18_sorted_perm l, c18_sorted_nodup l hnd⟩

/-- the ranks are exactly `0 .. k-1`, in key order -/
theorem C18_values (l : List Int) (hnd : l.Nodup) :
    (compactTimeslot l).map (·.2) = List.range l.length := by
  rw [c18_compact_eq l hnd, List.zipIdx_map_snd, (C18_sorted_perm l).length_eq, List.range_eq_range']

/-- the sorted list is the only ascending permutation; this is also how the sort of a concrete input is
    evaluated (`mergeSort` is defined by well-founded recursion, which `decide` cannot unfold) -/
theorem C18_sorted_eq {l s : List Int} (hs : s.Pairwise (· ≤ ·)) (hp : s ~ l) : C18_sorted l = s :=
  ((C18_sorted_perm l).trans hp.symm).eq_of_pairwise (fun _ _ _ _ => Int.le_antisymm)
    (C18_sorted_pairwise_le l) hs

theorem C18_example_sorted :
    ([5, -1, 9] : List Int).mergeSort (fun a b => decide (a ≤ b)) = [-1, 5, 9] :=
  C18_sorted_eq (by decide) (by decide)

example : compactTimeslot [5, -1, 9] = [(-1, 0), (5, 1), (9, 2)] := by
  unfold compactTimeslot
  rw [C18_example_sorted]
  decide

example : rankOf (compactTimeslot [5, -1, 9]) 5 = some 1 ∧ rankOf (compactTimeslot [5, -1, 9]) 9 = some 2
    ∧ rankOf (compactTimeslot [5, -1, 9]) (-1) = some 0 ∧ rankOf (compactTimeslot [5, -1, 9]) 7 = none := by
  unfold compactTimeslot
  rw [C18_example_sorted]
  decide

/-- duplicates are collapsed to the LAST index of the sorted list (dict overwrite), which is why the
    theorems above need `Nodup`: here the ranks are 1 and 2, not 0 and 1 -/
example : compactTimeslot [3, 3, 4] = [(3, 1), (4, 2)] := by
  unfold compactTimeslot
  rw [List.mergeSort_of_pairwise (by decide)]
  decide

end Dynetx
