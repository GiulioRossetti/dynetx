import DynetxModel.ConformityH
import DynetxProofs.Lemmas.Upsert
/-
  C20, sliding clause.  The nested-dictionary accumulation of `sliding_delta_conformity`
  (`alpha_attribute_node_to_seq[alpha][attribute][n].append((t + delta, v))`; `slidingOf`, DynetxModel/Conformity.lean)
  does not look at what it accumulates, so it is proved over any per-instant function `f` (`C20G_sliding`); the two
  drivers are instances.
-/
namespace Dynetx

section assoc
variable {κ γ : Type} [BEq κ] [LawfulBEq κ]

/-- `d.get(k)` on an insertion-ordered association list -/
def c20s_get (c : List (κ × γ)) (k : κ) : Option γ := (c.find? (fun e => e.1 == k)).map (·.2)

/-- every dictionary write of the driver is "replace the value under `k` by `F` of it, `d` standing for a missing one" -/
theorem c20s_getD_upsert (c : List (κ × γ)) (k k' : κ) (u : γ → γ) (ins d : γ) (F : γ → γ)
    (hupd : ∀ v, c20s_get c k = some v → u v = F v) (hins : c20s_get c k = none → ins = F d) :
    (c20s_get (upsert c k (fun e => (e.1, u e.2)) ins) k').getD d =
      if k == k' then F ((c20s_get c k).getD d) else (c20s_get c k').getD d := by
  unfold c20s_get at *
  rw [find?_upsert c k k' (fun e => (e.1, u e.2)) ins (fun _ h => h)]
  cases k == k' with
  | false => rfl
  | true =>
    cases h : c.find? (fun e => e.1 == k) with
    | none => exact hins (congrArg _ h)
    | some e => exact hupd e.2 (congrArg _ h)

end assoc

abbrev Series := List (Int × Rat)
abbrev PerNode := List (Node × Series)
abbrev Sliding := List (Nat × PerNode)

/-- `res[a][n]`, the empty series where a key is missing -/
def c20s_series (res : Sliding) (a : Nat) (n : Node) : Series :=
  ((c20s_get res a).bind (fun per => c20s_get per n)).getD []

theorem c20s_series_eq (res : Sliding) (a : Nat) (n : Node) :
    c20s_series res a n = (c20s_get ((c20s_get res a).getD []) n).getD [] := by
  unfold c20s_series; cases c20s_get res a <;> rfl

/-- `seq[n].append((stamp, v))` for every `(n, v)` of one result row.  Written through `upsert`, as `c20s_merge` is:
    both unfold to the text of `slidingOf` (`c20g_sliding_eq`), and one lemma, `c20s_getD_upsert`, reads both levels. -/
def c20s_pushRow (stamp : Int) (cur : PerNode) (row : List (Node × Rat)) : PerNode :=
  row.foldl (fun c nv => upsert c nv.1 (fun e => (e.1, e.2 ++ [(stamp, nv.2)])) [(stamp, nv.2)]) cur

theorem c20s_pushRow_get (stamp : Int) (row : List (Node × Rat)) (cur : PerNode) (n : Node) :
    (c20s_get (c20s_pushRow stamp cur row) n).getD [] =
      (c20s_get cur n).getD [] ++ (row.filter (fun nv => nv.1 == n)).map (fun nv => (stamp, nv.2)) := by
  induction row generalizing cur with
  | nil => exact (List.append_nil _).symm
  | cons nv row ih =>
    rw [c20s_pushRow, List.foldl_cons, ← c20s_pushRow, ih,
      c20s_getD_upsert cur nv.1 n (· ++ [(stamp, nv.2)]) [(stamp, nv.2)] [] (· ++ [(stamp, nv.2)]) (fun _ _ => rfl)
        (fun _ => rfl),
      List.filter_cons]
    cases hk : nv.1 == n with
    | false => rfl
    | true => cases beq_iff_eq.1 hk; exact List.append_assoc _ _ _

def c20s_merge (stamp : Int) (acc : Sliding) (r : List (Nat × List (Node × Rat))) : Sliding :=
  r.foldl (fun acc ar =>
    let cur' := c20s_pushRow stamp ((c20s_get acc ar.1).getD []) ar.2
    upsert acc ar.1 (fun e => (e.1, cur')) cur') acc

def c20s_contrib (stamp : Int) (r : List (Nat × List (Node × Rat))) (a : Nat) (n : Node) : Series :=
  (r.filter (fun ar => ar.1 == a)).flatMap (fun ar => (ar.2.filter (fun nv => nv.1 == n)).map (fun nv => (stamp, nv.2)))

theorem c20s_merge_series (stamp : Int) (r : List (Nat × List (Node × Rat))) (acc : Sliding) (a : Nat) (n : Node) :
    c20s_series (c20s_merge stamp acc r) a n = c20s_series acc a n ++ c20s_contrib stamp r a n := by
  induction r generalizing acc with
  | nil => exact (List.append_nil _).symm
  | cons ar r ih =>
    -- one step writes, under `ar.1`, `c20s_pushRow` of the per-node dictionary found there
    rw [c20s_merge, List.foldl_cons, ← c20s_merge, ih, c20s_series_eq, c20s_series_eq,
      c20s_getD_upsert acc ar.1 a (fun _ => c20s_pushRow stamp ((c20s_get acc ar.1).getD []) ar.2) _ []
        (fun cur => c20s_pushRow stamp cur ar.2)
        (fun _ h => h ▸ rfl) (fun h => h ▸ rfl)]
    unfold c20s_contrib
    rw [List.filter_cons]
    cases hk : ar.1 == a with
    | false => rfl
    | true => cases beq_iff_eq.1 hk; exact (congrArg (· ++ _) (c20s_pushRow_get ..)).trans (List.append_assoc ..)

abbrev PerT := Int → Except Err (Option (List (Nat × List (Node × Rat))))

/-- the ids the driver visits: `t + delta < tids[-1]` -/
def c20g_qualifying (tids : List Int) (delta : Int) : List Int :=
  match tids.getLast? with
  | none => []
  | some lastId => tids.filter (fun t => t + delta < lastId)

/-- one iteration of `for t in tids` -/
def c20g_step (delta : Int) (f : PerT) (acc : Sliding) (t : Int) : Except Err Sliding :=
  match f t with
  | .error e => .error e
  | .ok none => .ok acc
  | .ok (some r) => .ok (c20s_merge (t + delta) acc r)

theorem c20g_sliding_eq (tids : List Int) (delta : Int) (f : PerT) :
    slidingOf tids delta f = (c20g_qualifying tids delta).foldlM (c20g_step delta f) [] := by
  unfold slidingOf c20g_qualifying
  cases tids.getLast? <;> rfl

/-- the series (key, node) the property prescribes over the ids `ts` -/
def c20g_expected (delta : Int) (f : PerT) (ts : List Int) (a : Nat) (n : Node) : Series :=
  ts.flatMap (fun t => match f t with
    | .ok (some r) => c20s_contrib (t + delta) r a n
    | _ => [])

theorem c20g_fold (delta : Int) (f : PerT) (ts : List Int) :
    ∀ (acc res : Sliding), ts.foldlM (c20g_step delta f) acc = .ok res →
      ∀ a n, c20s_series res a n = c20s_series acc a n ++ c20g_expected delta f ts a n := by
  induction ts with
  | nil =>
    intro acc res h
    cases h
    exact fun a n => (List.append_nil _).symm
  | cons t ts ih =>
    intro acc res h a n
    revert h
    rw [List.foldlM_cons, c20g_step, c20g_expected, List.flatMap_cons]
    rcases f t with e | _ | r
    · exact fun h => nomatch h
    · exact fun h => ih _ res h a n
    · exact fun h => (ih _ res h a n).trans ((congrArg (· ++ _) (c20s_merge_series ..)).trans (List.append_assoc ..))

theorem c20g_fold_ok_iff (delta : Int) (f : PerT) (ts : List Int) (acc : Sliding) :
    (∃ res, ts.foldlM (c20g_step delta f) acc = .ok res) ↔ ∀ t ∈ ts, ∃ r, f t = .ok r := by
  induction ts generalizing acc with
  | nil => exact ⟨fun _ _ h => absurd h List.not_mem_nil, fun _ => ⟨acc, rfl⟩⟩
  | cons t ts ih =>
    simp only [List.foldlM_cons, List.forall_mem_cons, c20g_step]
    cases f t with
    | error e => exact ⟨nofun, fun h => nomatch h.1⟩
    | ok o => cases o <;> exact (ih _).trans ⟨fun h => ⟨⟨_, rfl⟩, h⟩, fun h => h.2⟩

/-- **C20 (sliding, any per-instant function).**  The series reported under (key, node) is, in the order of `tids`,
    `(t + delta, score)` for every visited id `t` whose call is not `None`; nothing else is reported. -/
theorem C20G_sliding (tids : List Int) (delta : Int) (f : PerT) (res : Sliding) (h : slidingOf tids delta f = .ok res) :
    ∀ a n, c20s_series res a n = c20g_expected delta f (c20g_qualifying tids delta) a n := by
  rw [c20g_sliding_eq] at h
  exact c20g_fold delta f _ [] res h

theorem C20G_sliding_ok_iff (tids : List Int) (delta : Int) (f : PerT) :
    (∃ res, slidingOf tids delta f = .ok res) ↔ ∀ t ∈ c20g_qualifying tids delta, ∃ r, f t = .ok r := by
  rw [c20g_sliding_eq]
  exact c20g_fold_ok_iff delta f _ []

theorem C20G_sliding_ids (tids : List Int) (delta : Int) (t : Int) :
    t ∈ c20g_qualifying tids delta ↔ t ∈ tids ∧ ∃ lastId, tids.getLast? = some lastId ∧ t + delta < lastId := by
  unfold c20g_qualifying
  cases h : tids.getLast? with
  | none => simp only [List.getLast?_eq_none_iff.1 h, List.not_mem_nil, false_and]
  | some lastId => simp only [List.mem_filter, decide_eq_true_eq, Option.some.injEq, exists_eq_left']

/-- the `fun t => …` inside `Graph.slidingDeltaConformityH` under a name, so that call is
    `slidingOf dg.ids delta (perTH …)` by `rfl` -/
def perTH (dg : Graph) (tab : LabelTableH) (hier : Hierarchies) (delta : Int) (alphas labels : List Nat)
    (profileSize ptype : Nat) : PerT := fun t =>
  match dg.deltaConformityH tab hier t delta alphas labels profileSize ptype with
  | .error e => .error e
  | .ok none => .ok none
  | .ok (some r) => .ok (some (flattenRes (profilesOf labels profileSize).length r))

/-- **C20 (sliding; profiles, time-varying labels, hierarchies).**  `k` is a flat (exponent, profile) key of
    `flattenRes`. -/
theorem C20H_sliding (dg : Graph) (tab : LabelTableH) (hier : Hierarchies) (delta : Int) (alphas labels : List Nat)
    (profileSize ptype : Nat) (res : Sliding)
    (h : dg.slidingDeltaConformityH tab hier delta alphas labels profileSize ptype = .ok res) :
    ∀ k n, c20s_series res k n
      = c20g_expected delta (perTH dg tab hier delta alphas labels profileSize ptype) (c20g_qualifying dg.ids delta) k n :=
  C20G_sliding dg.ids delta _ res h

theorem C20H_sliding_ok_iff (dg : Graph) (tab : LabelTableH) (hier : Hierarchies) (delta : Int) (alphas labels : List Nat)
    (profileSize ptype : Nat) :
    (∃ res, dg.slidingDeltaConformityH tab hier delta alphas labels profileSize ptype = .ok res) ↔
      ∀ t ∈ c20g_qualifying dg.ids delta, ∃ r, dg.deltaConformityH tab hier t delta alphas labels profileSize ptype = .ok r := by
  refine (C20G_sliding_ok_iff dg.ids delta (perTH dg tab hier delta alphas labels profileSize ptype)).trans
    (forall₂_congr fun t _ => ?_)
  unfold perTH
  cases dg.deltaConformityH tab hier t delta alphas labels profileSize ptype with
  | error e => exact iff_of_false nofun nofun
  | ok o => cases o <;> exact iff_of_true ⟨_, rfl⟩ ⟨_, rfl⟩

/-- the flat keys of `flattenRes`: distinct (position of exponent, position of profile) give distinct keys -/
theorem flattenKey_injective (np i j i' j' : Nat) (hj : j < np) (hj' : j' < np) (h : i * np + j = i' * np + j') :
    i = i' ∧ j = j' := by
  have hq : ∀ i j, j < np → (i * np + j) / np = i := fun i j hj => by
    rw [Nat.mul_comm, Nat.mul_add_div (Nat.zero_lt_of_lt hj), Nat.div_eq_of_lt hj, Nat.add_zero]
  have e : i = i' := by rw [← hq i j hj, h, hq i' j' hj']
  subst e
  exact ⟨rfl, Nat.add_left_cancel h⟩

theorem slidingDeltaConformity_eq_slidingOf (dg : Graph) (delta : Int) (alphas : List Nat) (ptype : Nat) :
    dg.slidingDeltaConformity delta alphas ptype
      = slidingOf dg.ids delta (fun t => dg.deltaConformity t delta alphas ptype) := rfl

/-- `c20g_qualifying dg.ids delta`, by `rfl` -/
def c20s_qualifying (dg : Graph) (delta : Int) : List Int :=
  match dg.ids.getLast? with
  | none => []
  | some lastId => dg.ids.filter (fun t => t + delta < lastId)

/-- `c20g_expected delta (fun t => dg.deltaConformity t delta alphas ptype) ts a n`, by `rfl` -/
def c20s_expected (dg : Graph) (delta : Int) (alphas : List Nat) (ptype : Nat) (ts : List Int) (a : Nat) (n : Node) :
    Series :=
  ts.flatMap (fun t => match dg.deltaConformity t delta alphas ptype with
    | .ok (some r) => c20s_contrib (t + delta) r a n
    | _ => [])

/-- **C20 (sliding).**  `C20G_sliding` for the single-label driver; the order of `dg.ids` is chronological (`Graph.ids`
    sorts). -/
theorem C20_sliding (dg : Graph) (delta : Int) (alphas : List Nat) (ptype : Nat) (res : Sliding)
    (h : dg.slidingDeltaConformity delta alphas ptype = .ok res) :
    ∀ a n, c20s_series res a n = c20s_expected dg delta alphas ptype (c20s_qualifying dg delta) a n :=
  C20G_sliding dg.ids delta _ res h

theorem C20_sliding_ok_iff (dg : Graph) (delta : Int) (alphas : List Nat) (ptype : Nat) :
    (∃ res, dg.slidingDeltaConformity delta alphas ptype = .ok res) ↔
      ∀ t ∈ c20s_qualifying dg delta, ∃ r, dg.deltaConformity t delta alphas ptype = .ok r :=
  C20G_sliding_ok_iff dg.ids delta _

theorem C20_sliding_ids (dg : Graph) (delta : Int) (t : Int) :
    t ∈ c20s_qualifying dg delta ↔ t ∈ dg.ids ∧ ∃ lastId, dg.ids.getLast? = some lastId ∧ t + delta < lastId :=
  C20G_sliding_ids dg.ids delta t

end Dynetx
