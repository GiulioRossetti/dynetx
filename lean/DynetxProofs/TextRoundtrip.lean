import DynetxProofs.TextNames
/-
  Text round trip for integer ids: the instance `name = natDigits`, `dec = nodeOf` of TextNames.lean.  For one line nothing
  has to be converted: `snapRow` and `intRow` unfold to `snapRowWith nodeOf` and `intRowWith nodeOf` (the model's
  TextNames.lean repeats IO.lean with `dec` for `nodeOf`), so a `…With_join` term proves a statement about them as it
  stands; the file readers recurse, and go through `parseSnapshotsText_eq_with` / `parseInteractionsText_eq_with`.
-/
namespace Dynetx

open List

deriving instance DecidableEq for RowI

theorem natOK_some {cm d : Char} (hcm : cm.isDigit = false) (hd : d.isDigit = false) :
    NameOK cm (some d) natDigits nodeOf :=
  TextN_nat_instance cm _ hcm fun _ e => Option.some.inj e ▸ hd

theorem natOK_none {cm : Char} (hcm : cm.isDigit = false) : NameOK cm none natDigits nodeOf :=
  TextN_nat_instance cm none hcm fun _ => nofun

theorem Text_snapRow (cm d : Char) (u v : Node) (t : Int)
    (hd : d.isDigit = false ∧ d ≠ '-') (hcm : cm.isDigit = false ∧ cm ≠ '-' ∧ cm ≠ d) :
    snapRow cm (some d) (joinFields d [natDigits u, natDigits v, intDigits t]) = .row u v t none :=
  snapRowWith_join (natOK_some hcm.1 hd.1) (.inl rfl) hd hcm u v t

theorem Text_snapRow_default_ws (cm d : Char) (u v : Node) (t : Int) (hdw : isWs d = true)
    (hcm : cm.isDigit = false ∧ cm ≠ '-' ∧ cm ≠ d) :
    snapRow cm none (joinFields d [natDigits u, natDigits v, intDigits t]) = .row u v t none :=
  snapRowWith_join (natOK_none hcm.1) (.inr ⟨rfl, hdw⟩)
    ⟨(txt_ws_not_num hdw).1, (txt_ws_not_num hdw).2.1⟩ hcm u v t

theorem Text_snapRow_default (cm : Char) (u v : Node) (t : Int)
    (hcm : cm.isDigit = false ∧ cm ≠ '-' ∧ cm ≠ ' ') :
    snapRow cm none (joinFields ' ' [natDigits u, natDigits v, intDigits t]) = .row u v t none :=
  Text_snapRow_default_ws cm ' ' u v t rfl hcm

theorem Text_intRow (cm d : Char) (u v : Node) (plus : Bool) (t : Int)
    (hd : d.isDigit = false ∧ d ≠ '-' ∧ d ≠ '+')
    (hcm : cm.isDigit = false ∧ cm ≠ '-' ∧ cm ≠ '+' ∧ cm ≠ d) :
    intRow cm (some d)
        (joinFields d [natDigits u, natDigits v, [if plus then '+' else '-'], intDigits t])
      = .row { t := t, u := u, v := v, plus := plus } :=
  intRowWith_join (natOK_some hcm.1 hd.1) (.inl rfl) hd hcm u v plus t

theorem Text_intRow_default_ws (cm d : Char) (u v : Node) (plus : Bool) (t : Int) (hdw : isWs d = true)
    (hcm : cm.isDigit = false ∧ cm ≠ '-' ∧ cm ≠ '+' ∧ cm ≠ d) :
    intRow cm none
        (joinFields d [natDigits u, natDigits v, [if plus then '+' else '-'], intDigits t])
      = .row { t := t, u := u, v := v, plus := plus } :=
  intRowWith_join (natOK_none hcm.1) (.inr ⟨rfl, hdw⟩) (txt_ws_not_num hdw) hcm u v plus t

theorem Text_intRow_default (cm : Char) (u v : Node) (plus : Bool) (t : Int)
    (hcm : cm.isDigit = false ∧ cm ≠ '-' ∧ cm ≠ '+' ∧ cm ≠ ' ') :
    intRow cm none
        (joinFields ' ' [natDigits u, natDigits v, [if plus then '+' else '-'], intDigits t])
      = .row { t := t, u := u, v := v, plus := plus } :=
  Text_intRow_default_ws cm ' ' u v plus t rfl hcm

/-- **C09 at text level**: the lines written by `generate_snapshots(G, d)` are read by `parse_snapshots(delimiter=d)`
    as the rows of `generate_snapshots` -/
theorem C09_text_roundtrip (g : Graph) (cm d : Char)
    (hd : d.isDigit = false ∧ d ≠ '-') (hcm : cm.isDigit = false ∧ cm ≠ '-' ∧ cm ≠ d) :
    parseSnapshotsText g.directed cm (some d) (g.snapshotLines d)
      = parseSnapshots g.directed (g.genSnapshots.map (fun r => (r.1, r.2.1, r.2.2, none))) :=
  (parseSnapshotsText_eq_with ..).trans <| parseSnapshotsTextWith_lines g
    (natOK_some hcm.1 hd.1) (.inl rfl) hd hcm

theorem C09_text_roundtrip_default_ws (g : Graph) (cm d : Char) (hdw : isWs d = true)
    (hcm : cm.isDigit = false ∧ cm ≠ '-' ∧ cm ≠ d) :
    parseSnapshotsText g.directed cm none (g.snapshotLines d)
      = parseSnapshots g.directed (g.genSnapshots.map (fun r => (r.1, r.2.1, r.2.2, none))) :=
  (parseSnapshotsText_eq_with ..).trans <| parseSnapshotsTextWith_lines g
    (natOK_none hcm.1) (.inr ⟨rfl, hdw⟩) ⟨(txt_ws_not_num hdw).1, (txt_ws_not_num hdw).2.1⟩ hcm

theorem C09_text_roundtrip_default (g : Graph) (cm : Char)
    (hcm : cm.isDigit = false ∧ cm ≠ '-' ∧ cm ≠ ' ') :
    parseSnapshotsText g.directed cm none (g.snapshotLines ' ')
      = parseSnapshots g.directed (g.genSnapshots.map (fun r => (r.1, r.2.1, r.2.2, none))) :=
  C09_text_roundtrip_default_ws g cm ' ' rfl hcm

/-- **C10 at text level**: likewise for `generate_interactions(G, d)` and `parse_interactions(delimiter=d)` -/
theorem C10_text_roundtrip (g : Graph) (cm d : Char)
    (hd : d.isDigit = false ∧ d ≠ '-' ∧ d ≠ '+')
    (hcm : cm.isDigit = false ∧ cm ≠ '-' ∧ cm ≠ '+' ∧ cm ≠ d) :
    parseInteractionsText g.directed cm (some d) (g.interactionLines d)
      = parseInteractions g.directed g.genInteractions :=
  (parseInteractionsText_eq_with ..).trans <| parseInteractionsTextWith_lines g
    (natOK_some hcm.1 hd.1) (.inl rfl) hd hcm

theorem C10_text_roundtrip_default_ws (g : Graph) (cm d : Char) (hdw : isWs d = true)
    (hcm : cm.isDigit = false ∧ cm ≠ '-' ∧ cm ≠ '+' ∧ cm ≠ d) :
    parseInteractionsText g.directed cm none (g.interactionLines d)
      = parseInteractions g.directed g.genInteractions :=
  (parseInteractionsText_eq_with ..).trans <| parseInteractionsTextWith_lines g
    (natOK_none hcm.1) (.inr ⟨rfl, hdw⟩) (txt_ws_not_num hdw) hcm

theorem C10_text_roundtrip_default (g : Graph) (cm : Char)
    (hcm : cm.isDigit = false ∧ cm ≠ '-' ∧ cm ≠ '+' ∧ cm ≠ ' ') :
    parseInteractionsText g.directed cm none (g.interactionLines ' ')
      = parseInteractions g.directed g.genInteractions :=
  C10_text_roundtrip_default_ws g cm ' ' rfl hcm

example : natDigits 1203 = ['1', '2', '0', '3'] := by rw [natDigits_eq]; rfl
example : natDigits 0 = ['0'] := by rw [natDigits_eq]; rfl
example : intDigits (-45) = ['-', '4', '5'] := by simp only [intDigits, natDigits_eq]; rfl

theorem txt_demo_snapLine :
    joinFields ',' [natDigits 12, natDigits 7, intDigits (-3)] = "12,7,-3".toList := by
  simp only [intDigits, natDigits_eq, String.reduceToList]; rfl

theorem txt_demo_snapRow : snapRow '#' (some ',') "12,7,-3".toList = .row 12 7 (-3) none := by
  simp only [String.reduceToList]; decide

example : snapRow '#' (some ',') "12,7,-3".toList = .row 12 7 (-3) none := txt_demo_snapRow
example : snapRow '#' (some ',') (joinFields ',' [natDigits 12, natDigits 7, intDigits (-3)])
    = .row 12 7 (-3) none := txt_demo_snapLine ▸ txt_demo_snapRow
example : snapRow '#' (some ',') (joinFields ',' [natDigits 12, natDigits 7, intDigits (-3)])
    = .row 12 7 (-3) none := Text_snapRow '#' ',' 12 7 (-3) (by decide) (by decide)
example : snapRow '#' (some '\t') "12\t7\t-3".toList = .row 12 7 (-3) none := by simp only [String.reduceToList]; decide
example : intRow '#' none "12 7 - 30".toList = .row { t := 30, u := 12, v := 7, plus := false } := by simp only [String.reduceToList]; decide

/-- `d ≠ '-'` is needed (snapshots): with delimiter `-` a negative timestamp gives an empty field -/
theorem Text_snapRow_minus_delimiter_fails :
    snapRow '#' (some '-') (joinFields '-' [natDigits 1, natDigits 2, intDigits (-3)]) = .bad := by
  simp only [intDigits, natDigits_eq]; decide

/-- `d ≠ '+'` is needed (interactions): the line of a `+` row with delimiter `+` has five fields, skipped -/
theorem Text_intRow_plus_delimiter_fails :
    intRow '#' (some '+') (joinFields '+' [natDigits 1, natDigits 2, [if true then '+' else '-'], intDigits 3])
      = .skip := by
  simp only [intDigits, natDigits_eq]; decide

/-- `cm ≠ '+'` is needed (interactions): the comment marker `+` cuts every `+` row, which is then skipped -/
theorem Text_intRow_plus_comment_fails :
    intRow '+' (some ' ') (joinFields ' ' [natDigits 1, natDigits 2, [if true then '+' else '-'], intDigits 3])
      = .skip := by
  simp only [intDigits, natDigits_eq]; decide

/-- `cm ≠ d` is needed -/
theorem Text_snapRow_comment_is_delimiter_fails :
    snapRow ',' (some ',') (joinFields ',' [natDigits 1, natDigits 2, intDigits 3]) = .skip := by
  simp only [intDigits, natDigits_eq]; decide

/-- the reader's default `split()` does not read a file written with another (non-whitespace) delimiter -/
theorem Text_snapRow_default_mismatch :
    snapRow '#' none (joinFields ',' [natDigits 1, natDigits 2, intDigits 3]) = .skip := by
  simp only [intDigits, natDigits_eq]; decide

end Dynetx
