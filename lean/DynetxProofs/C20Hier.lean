import DynetxProofs.C20
/-
  C20 for the remaining branches of `__label_frequency` (DynetxModel/ConformityH.lean): time-varying labels and label
  hierarchies.  Every level of the computation has one contract, `KeyOr`: a value in [-1, 1] (hierarchies being
  rankings, `HierOK`), or `KeyError`; a node score that is returned is `scoreOf` (C20.lean) on the similarities its
  ranks returned.
-/
namespace Dynetx

/-- a hierarchy is a ranking: two ranks never differ by more than `len - 1` (true of `{v: position}` tables) -/
def HierOK (tab : Hierarchy) : Prop :=
  ∀ a ∈ tab, ∀ b ∈ tab, absInt (a.2 - b.2) ≤ (tab.length : Int) - 1

def HiersOK (hier : Hierarchies) : Prop := ∀ l tab, hier l = some tab → HierOK tab

theorem absInt_nonneg (x : Int) : 0 ≤ absInt x := by
  fun_cases absInt x
  · next h => exact Int.neg_nonneg_of_nonpos (Int.le_of_lt h)
  · next h => exact Int.not_lt.1 h

theorem neg_div_bound {A c : Rat} (h0 : 0 ≤ A) (h1 : A ≤ c) (hc : 0 < c) : -1 ≤ -A / c ∧ -A / c ≤ 0 := by
  rw [neg_div]
  exact ⟨Rat.neg_le_neg (div_le_one_of_le₀ h1 (Rat.le_of_lt hc)), neg_nonpos.2 (div_nonneg h0 (Rat.le_of_lt hc))⟩

theorem distanceH_bound (h : Option Hierarchy) (hok : ∀ tab, h = some tab → HierOK tab) (a b : Nat) (x : Rat)
    (hx : distanceH h a b = .ok x) : -1 ≤ x ∧ x ≤ 0 := by
  revert hx
  fun_cases distanceH h a b
  · rintro ⟨⟩; exact ⟨Rat.le_refl, by decide⟩
  · exact nofun
  · next tab ea eb heb hea hlen =>
    rintro ⟨⟩
    have hma : ea ∈ tab := List.mem_of_find?_eq_some hea
    have h2 : 1 < tab.length :=
      Nat.lt_of_le_of_ne (List.length_pos_of_mem hma) fun h => hlen (beq_iff_eq.2 h.symm)
    exact neg_div_bound (Rat.intCast_nonneg.2 (absInt_nonneg _))
      ((Rat.intCast_le_intCast.2 (hok tab rfl ea hma eb (List.mem_of_find?_eq_some heb))).trans_eq
        (by rw [Rat.intCast_sub, Rat.intCast_natCast, Rat.intCast_one]))
      ((Rat.lt_iff_sub_pos _ _).1 (Rat.natCast_lt_natCast.2 h2))
  · exact nofun

/-- `ZeroDivisionError` needs a one-entry hierarchy that ranks both values, i.e. equal values: unreachable, since
    `__distance` is only called for different values -/
theorem distanceH_error (h : Option Hierarchy) (a b : Nat) (hab : a ≠ b) (e : Err)
    (he : distanceH h a b = .error e) : e = .key := by
  revert he
  fun_cases distanceH h a b
  · exact nofun
  · next tab ea eb heb hea hlen =>
    -- both values are found in the one entry
    obtain ⟨z, rfl⟩ := List.length_eq_one_iff.1 (beq_iff_eq.1 hlen)
    have ha := List.find?_some hea
    have hb := List.find?_some heb
    rw [List.mem_singleton.1 (List.mem_of_find?_eq_some hea)] at ha
    rw [List.mem_singleton.1 (List.mem_of_find?_eq_some heb)] at hb
    exact absurd ((beq_iff_eq.1 ha).symm.trans (beq_iff_eq.1 hb)) hab
  · exact nofun
  · rintro ⟨⟩; rfl

def KeyOr {α : Type} (P : α → Prop) : Except Err α → Prop
  | .ok x => P x
  | .error e => e = .key

theorem KeyOr.ok {α : Type} {P : α → Prop} {X : Except Err α} {x : α} (h : KeyOr P X) (hx : X = .ok x) : P x := by
  subst hx; exact h

theorem KeyOr.imp {α : Type} {P Q : α → Prop} {X : Except Err α} (h : KeyOr P X) (hPQ : ∀ x, P x → Q x) : KeyOr Q X := by
  cases X
  · exact h
  · exact hPQ _ h

theorem KeyOr.error {α : Type} {P : α → Prop} {X : Except Err α} {e : Err} (h : KeyOr P X) (he : X = .error e) :
    e = .key := by
  subst he; exact h

theorem KeyOr.map {α β : Type} {P : β → Prop} {X : Except Err α} (q : α → β) (h : KeyOr (fun x => P (q x)) X) :
    KeyOr P (X.map q) := by
  cases X <;> exact h

theorem keyOr_allOk {α β : Type} {P : α → Prop} {f : β → Except Err α} {l : List β} (h : ∀ b, KeyOr P (f b)) :
    KeyOr (fun r => ∀ y ∈ r, P y) (allOk (l.map f)) := by
  have hL : ∀ X ∈ l.map f, KeyOr P X := List.forall_mem_map.2 fun b _ => h b
  cases hr : allOk (l.map f) with
  | error e => exact hL _ (allOk_error hr)
  | ok r => exact fun y hy => hL (.ok y) (allOk_ok hr ▸ List.mem_map_of_mem hy)

theorem valueOrKeyError_keyOr (o : Option Nat) : KeyOr (fun _ => True) (valueOrKeyError o) := by
  cases o
  · rfl
  · trivial

theorem simH_keyOr (h : Option Hierarchy) (au av : Nat) :
    KeyOr (fun s => (∀ tab, h = some tab → HierOK tab) → |s| ≤ 1)
      (if au == av then (.ok 1 : Except Err Rat) else distanceH h au av) := by
  cases hc : au == av with
  | true => exact fun _ => abs_one.le
  | false =>
    cases hd : distanceH h au av with
    | error e => exact distanceH_error h au av (beq_eq_false_iff_ne.1 hc) e hd
    | ok s =>
      intro hok
      have := distanceH_bound h hok au av s hd
      exact abs_le.2 ⟨this.1, Rat.le_trans this.2 (by decide)⟩

/-- the hypothesis on the hierarchy stands inside the contract: the exceptions do not depend on it -/
theorem termH_keyOr (g : Graph) (lab : Node → LabelVal) (h : Option Hierarchy) (au : Nat) (td : List (Node × Nat))
    (v : Node) :
    KeyOr (fun o => (∀ tab, h = some tab → HierOK tab) → ∀ x, o = some x → |x| ≤ 1) (termH g lab h au td v) := by
  fun_cases termH g lab h au td v
  · exact fun _ _ hx => nomatch hx
  · next hs => exact (simH_keyOr h au _).error hs
  · next he => exact (keyOr_allOk fun _ => valueOrKeyError_keyOr _).error he
  · next hs _ _ he _ _ _ =>
    rintro hok _ ⟨⟩
    exact abs_mul_le_one ((simH_keyOr h au _).ok hs hok)
      (factor_abs_le _ _ ((List.length_filter_le _ _).trans_eq (allOk_map_length he)))

theorem labelFrequencyH_keyOr (g : Graph) (lab : Node → LabelVal) (h : Option Hierarchy) (u : Node)
    (nodes : List Node) (td : List (Node × Nat)) (start : Int) :
    KeyOr (fun x => (∀ tab, h = some tab → HierOK tab) → |x| ≤ 1) (labelFrequencyH g lab h u nodes td start) := by
  have hts au := keyOr_allOk (l := nodes) (termH_keyOr g lab h au td)
  fun_cases labelFrequencyH g lab h u nodes td start
  · rfl
  · next he => exact (hts _).error he
  · next he =>
    intro hok
    -- the skipped nodes contribute no summand and still count in the denominator
    refine avg_abs_le _ _ ((List.length_filterMap_le _ _).trans_eq (allOk_map_length he)) fun y hy => ?_
    obtain ⟨_, ho, rfl⟩ := List.mem_filterMap.1 hy
    exact (hts _).ok he _ ho hok y rfl

theorem profileFrequencyH_eq (g : Graph) (tab : LabelTableH) (hier : Hierarchies) (profile : List Nat) (u : Node)
    (nodes : List Node) (td : List (Node × Nat)) (start : Int) :
    profileFrequencyH g tab hier profile u nodes td start
      = (allOk (profile.map fun l => labelFrequencyH g (tab l) (hier l) u nodes td start)).map (·.foldl (· * ·) 1) := by
  unfold profileFrequencyH
  generalize (1 : Rat) = s
  induction profile generalizing s with
  | nil => rfl
  | cons l ls ih =>
    simp only [List.foldl_cons, List.map_cons]
    cases labelFrequencyH g (tab l) (hier l) u nodes td start with
    | error e => exact List.foldl_fixed' (fun _ => rfl) ls
    | ok x =>
      simp only [ih, allOk]
      cases allOk (ls.map fun l => labelFrequencyH g (tab l) (hier l) u nodes td start) <;> rfl

theorem abs_foldl_mul_le (xs : List Rat) (h : ∀ x ∈ xs, |x| ≤ 1) : ∀ s : Rat, |s| ≤ 1 → |xs.foldl (· * ·) s| ≤ 1 := by
  induction xs with
  | nil => exact fun s hs => hs
  | cons x xs ih =>
    exact fun s hs => ih (fun y hy => h y (List.mem_cons_of_mem _ hy)) _ (abs_mul_le_one hs (h x List.mem_cons_self))

theorem profileFrequencyH_keyOr (g : Graph) (tab : LabelTableH) (hier : Hierarchies) (profile : List Nat) (u : Node)
    (nodes : List Node) (td : List (Node × Nat)) (start : Int) :
    KeyOr (fun x => HiersOK hier → |x| ≤ 1) (profileFrequencyH g tab hier profile u nodes td start) := by
  rw [profileFrequencyH_eq]
  refine ((keyOr_allOk (l := profile) (P := fun x => HiersOK hier → |x| ≤ 1) fun l =>
    (labelFrequencyH_keyOr g (tab l) (hier l) u nodes td start).imp fun _ hx hok => hx (hok l)).imp
      fun xs hxs hok => ?_).map _
  exact abs_foldl_mul_le xs (fun y hy => hxs y hy hok) 1 abs_one.le

theorem nodeScoreH_eq (g : Graph) (tab : LabelTableH) (hier : Hierarchies) (pr : List Nat) (sp : c13_Res)
    (ptype alpha : Nat) (start : Int) (u : Node) :
    nodeScoreH g tab hier pr sp ptype alpha start u =
      match allOk ((ranksOf (tDistances sp ptype u)).map fun d => (profileFrequencyH g tab hier pr u
          (nodesAtRank (tDistances sp ptype u) d) (tDistances sp ptype u) start).map (· / ((d : Nat) : Rat) ^ alpha)) with
      | .error e => .error e
      | .ok parts =>
        match (ranksOf (tDistances sp ptype u)).getLast? with
        | none => .ok (parts.foldl (· + ·) 0)
        | some mx => .ok (parts.foldl (· + ·) 0 / normConst mx alpha) := by
  unfold nodeScoreH
  dsimp only
  congr 2
  refine List.map_congr_left fun d hd => ?_
  have : (d == 0) = false := beq_false_of_ne (Nat.ne_of_gt (ranksOf_pos hd))
  rw [this, if_neg Bool.false_ne_true]
  unfold nodesAtRank
  cases profileFrequencyH g tab hier pr u _ _ start <;> rfl

theorem nodeScoreH_keyOr (g : Graph) (tab : LabelTableH) (hier : Hierarchies) (pr : List Nat) (sp : c13_Res)
    (ptype alpha : Nat) (start : Int) (u : Node) :
    KeyOr (fun x => ∃ sim : Nat → Rat,
      (∀ d ∈ ranksOf (tDistances sp ptype u), profileFrequencyH g tab hier pr u
        (nodesAtRank (tDistances sp ptype u) d) (tDistances sp ptype u) start = .ok (sim d)) ∧
      x = scoreOf sim (fun d => ((d : Nat) : Rat) ^ alpha) (tDistances sp ptype u))
      (nodeScoreH g tab hier pr sp ptype alpha start u) := by
  rw [nodeScoreH_eq]
  split
  · next e he =>
    exact (keyOr_allOk (P := fun _ => True) fun d =>
      ((profileFrequencyH_keyOr g tab hier pr u _ _ start).imp fun _ _ => trivial).map _).error he
  · next parts he =>
    obtain ⟨sim, hsim, rfl⟩ := allOk_map_eq_ok _ he
    split
    · next hl => exact ⟨sim, hsim, by rw [scoreOf_raw, hl]⟩
    · next mx hl => exact ⟨sim, hsim, by rw [scoreOf_raw, hl]; rfl⟩

/-- **C20 (bound; time-varying labels and hierarchies).** -/
theorem C20H_bound (g : Graph) (tab : LabelTableH) (hier : Hierarchies) (hok : HiersOK hier) (pr : List Nat)
    (sp : List ((Node × Node) × List TPath)) (ptype alpha : Nat) (start : Int) (u : Node) (x : Rat)
    (hx : nodeScoreH g tab hier pr sp ptype alpha start u = .ok x) : -1 ≤ x ∧ x ≤ 1 := by
  obtain ⟨sim, hsim, rfl⟩ := (nodeScoreH_keyOr g tab hier pr sp ptype alpha start u).ok hx
  exact scoreOf_bound sim _ _ (pow_weight_pos alpha) fun d hd =>
    (profileFrequencyH_keyOr g tab hier pr u _ _ start).ok (hsim d hd) hok

/-- **C20 (exceptions of these branches).**  `KeyError` only: a time-varying label without a value at the instant it
    is read, or a value without a rank. -/
theorem C20H_errors (g : Graph) (tab : LabelTableH) (hier : Hierarchies) (pr : List Nat)
    (sp : List ((Node × Node) × List TPath)) (ptype alpha : Nat) (start : Int) (u : Node) (e : Err)
    (he : nodeScoreH g tab hier pr sp ptype alpha start u = .error e) : e = .key :=
  (nodeScoreH_keyOr g tab hier pr sp ptype alpha start u).error he

/-- **C20 (shape and bound of the result; time-varying labels and hierarchies).** -/
theorem C20H_result (dg : Graph) (tab : LabelTableH) (hier : Hierarchies) (hok : HiersOK hier) (start delta : Int)
    (alphas labels : List Nat) (profileSize ptype : Nat) (l : List (Nat × List (List Nat × List (Node × Rat))))
    (h : dg.deltaConformityH tab hier start delta alphas labels profileSize ptype = .ok (some l)) :
    l.map (·.1) = alphas ∧
    (∀ e ∈ l, e.2.map (·.1) = profilesOf labels profileSize) ∧
    (∃ g, dg.timeSlice start (some (start + delta)) = .ok g ∧
      ∀ e ∈ l, ∀ pe ∈ e.2, pe.2.map (·.1) = g.nodesAt (some start)) ∧
    (∀ e ∈ l, ∀ pe ∈ e.2, ∀ nv ∈ pe.2, -1 ≤ nv.2 ∧ nv.2 ≤ 1) := by
  rw [deltaConformityH_eq] at h
  by_cases h1 : profileSize > labels.length
  · rw [if_pos h1] at h; cases h
  by_cases h2 : (alphas.length < 1 || labels.length < 1) = true
  · rw [if_neg h1, if_pos h2] at h; cases h
  rw [if_neg h1, if_neg h2] at h
  obtain ⟨g, sp, hs, _, hk⟩ := confWindow_some h
  split at hk
  · cases hk
  · next r hr =>
    cases hk
    -- one `tagOk` per level: exponents, profiles, nodes
    obtain ⟨h1, hv1⟩ := tagOk_ok hr
    have h2 := fun e he => tagOk_ok (hv1 e he)
    have h3 := fun e he pe hpe => tagOk_ok ((h2 e he).2 pe hpe)
    exact ⟨h1, fun e he => (h2 e he).1, ⟨g, hs, fun e he pe hpe => (h3 e he pe hpe).1⟩,
      fun e he pe hpe nv hnv => C20H_bound g tab hier hok pe.1 sp ptype e.1 start nv.1 nv.2 ((h3 e he pe hpe).2 nv hnv)⟩

theorem labelFrequencyH_static (g : Graph) (lab : Node → Nat) (u : Node) (nodes : List Node) (td : List (Node × Nat))
    (start : Int) :
    labelFrequencyH g (fun n => .static (lab n)) none u nodes td start = .ok (labelFrequencyL g lab u nodes td) := by
  unfold labelFrequencyH labelFrequencyL termH
  -- every value is there and `distanceH none` is `-1`: each loop maps to `.ok`s and returns them (`allOk_map_ok`), and
  -- the `filterMap` that skips nodes keeps every one
  simp only [LabelVal.at?, distanceH, ← apply_ite Except.ok, valueOrKeyError, allOk_map_ok, List.filter_map,
    List.length_map, Function.comp_def, List.filterMap_map, id_eq, List.filterMap_eq_map']

theorem profileFrequencyH_static (g : Graph) (tab : LabelTable) (profile : List Nat) (u : Node) (nodes : List Node)
    (td : List (Node × Nat)) (start : Int) :
    profileFrequencyH g (fun l n => .static (tab l n)) (fun _ => none) profile u nodes td start
      = .ok (profileFrequency g tab profile u nodes td) := by
  rw [profileFrequencyH_eq]
  simp only [labelFrequencyH_static, allOk_map_ok, Except.map, List.foldl_map]
  rfl

theorem nodeScoreH_static (g : Graph) (tab : LabelTable) (pr : List Nat) (sp : c13_Res) (ptype alpha : Nat) (start : Int) (u : Node) :
    nodeScoreH g (fun l n => .static (tab l n)) (fun _ => none) pr sp ptype alpha start u
      = .ok (nodeScoreP g tab pr sp ptype alpha u) := by
  rw [nodeScoreH_eq, nodeScoreP_eq, scoreOf_raw]
  simp only [profileFrequencyH_static, Except.map, allOk_map_ok]
  cases (ranksOf (tDistances sp ptype u)).getLast? <;> rfl

/-- **C20 (consistency of the two models).**  With static labels and no hierarchies, the model of ConformityH.lean is
    that of ConformityP.lean: same value, same exceptions. -/
theorem C20H_static (dg : Graph) (tab : LabelTable) (start delta : Int) (alphas labels : List Nat)
    (profileSize ptype : Nat) :
    dg.deltaConformityH (fun l n => .static (tab l n)) (fun _ => none) start delta alphas labels profileSize ptype
      = dg.deltaConformityP tab start delta alphas labels profileSize ptype := by
  rw [deltaConformityH_eq, deltaConformityP_eq]
  simp only [nodeScoreH_static, tagOk_pure]

example : HierOK [(4, 0), (7, 1), (9, 2)] := by
  unfold HierOK
  decide

/-- `HierOK` is needed for `distanceH_bound`: with ranks that are not positions the "distance" of two values leaves
    [-1, 0] (here it is -10) -/
theorem C20H_bad_hierarchy : distanceH (some [(0, 0), (1, 10)]) 0 1 = .ok (-10) := by
  decide +kernel

/-- a time-varying label without a value at `start` raises `KeyError` -/
example (g : Graph) (nodes : List Node) (td : List (Node × Nat)) :
    labelFrequencyH g (fun _ => .dyn [(3, 1)]) none 0 nodes td 2 = .error .key := rfl

end Dynetx
