import DynetxModel.Paths
import DynetxProofs.Lemmas.Upsert
import DynetxProofs.Rn.Attr
/-
  The simp set `rn`.  Every lemma in it has renamed arguments on the left and the renaming applied to the result on the
  right, so `simp only [f, rn, hρ]` unfolds `f` and moves the renaming outwards through it.  The set holds the core
  lemmas that move a `List.map` or `Option.map` outwards, with `Function.comp_def`; the lemma of a list operation under
  an injective map (below) or of an operation of the model (Equivariance*.lean) is tagged exactly when a later proof
  reaches it through the set, and carries no tag when later proofs only cite it by name.
  `hρ` has to be among the simp arguments: simp's discharger does not use the hypotheses of the context.
  `beq_of_inj` is not in the set: its left side `f x == f y` has a variable at the head, so simp tries it on every `==`
  of the goal and looks in vain for the injectivity of whatever `f` it guessed.  Proofs name `rn_beq hρ`, or
  `beq_of_inj` at the injection they mean.
-/
namespace Dynetx

attribute [rn] List.map_map List.filter_map List.find?_map List.any_map List.length_map List.map_append List.map_cons
  List.map_nil List.flatMap_map List.map_flatMap Function.comp_def Option.map_some Option.map_none Option.map_map

theorem prod_injective {α β γ δ : Type} {f : α → β} {g : γ → δ} (hf : Function.Injective f)
    (hg : Function.Injective g) : Function.Injective (fun p : α × γ => (f p.1, g p.2)) :=
  fun _ _ h => Prod.ext (hf (Prod.mk.inj h).1) (hg (Prod.mk.inj h).2)

section
variable {α β : Type} [BEq α] [LawfulBEq α] [BEq β] [LawfulBEq β] {f : α → β} (hf : Function.Injective f)
include hf

@[rn] theorem contains_map_inj (l : List α) (x : α) : (l.map f).contains (f x) = l.contains x := by
  simp only [List.contains_eq_any_beq, List.any_map, Function.comp_def, beq_of_inj hf]

theorem insertNew_map_inj (l : List α) (x : α) : insertNew (l.map f) (f x) = (insertNew l x).map f := by
  simp only [insertNew, contains_map_inj hf, apply_ite (List.map f), List.map_append, List.map_cons, List.map_nil]

theorem foldl_insertNew_map_inj (xs acc : List α) :
    (xs.map f).foldl insertNew (acc.map f) = (xs.foldl insertNew acc).map f := by
  rw [List.foldl_map]
  exact List.foldl_hom (List.map f) (fun l x => insertNew_map_inj hf l x)

omit [BEq α] [LawfulBEq α] [BEq β] [LawfulBEq β] in
theorem map_injective : Function.Injective (List.map f) :=
  fun _ _ h => (List.map_inj_right (fun _ _ hxy => hf hxy)).mp h

end
end Dynetx
