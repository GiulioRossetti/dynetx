import Lean.Meta.Tactic.Simp.RegisterCommand
/-- lemmas that move an injective renaming of node ids outwards (see `Rn/MapInj.lean`) -/
register_simp_attr rn
