import DynetxProofs.Lemmas.FoldExit
/-
  The three readers of the model (`snapRow` of IO.lean, `snapRowWith dec` of TextNames.lean, `snapRowS` of TextMulti.lean,
  all under DynetxModel/, and their `intRow` counterparts) differ in how a line is cut into fields and agree on what a
  field list becomes: `snapOfFields dec`, `intOfFields dec`.
-/
namespace Dynetx

open List

/-- the row `parse_snapshots` makes of the fields of a line; `dec` is its `nodetype` -/
def snapOfFields (dec : List Char → Option Node) : List (List Char) → RowS
  | [u, v, t] =>
    (match dec u, dec v, intOf t with
      | some u, some v, some t => .row u v t none
      | _, _, _ => .bad)
  | u :: v :: t :: e :: _ =>
    (match dec u, dec v, intOf t, intOf e with
      | some u, some v, some t, some e => .row u v t (some e)
      | _, _, _, _ => .bad)
  | _ => .skip

/-- the row `parse_interactions` makes of them -/
def intOfFields (dec : List Char → Option Node) : List (List Char) → RowI
  | [u, v, op, t] =>
    (match dec u, dec v, intOf t with
      | some u, some v, some t => .row { t, u, v, plus := (op == ['+']) }
      | _, _, _ => .bad)
  | _ => .skip

/-- `s.split(delim)` -/
def c18t_split (delim : Option Char) (s : List Char) : List (List Char) :=
  match delim with | none => splitWs s | some d => splitOnChar d s

theorem c18t_fieldsOf_eq (cm : Char) (delim : Option Char) (l : List Char) :
    fieldsOf cm delim l =
      if (cutComment cm l).isEmpty then none else some (c18t_split delim (strip (cutComment cm l))) := rfl

theorem snapRowWith_eq (dec : List Char → Option Node) (cm : Char) (delim : Option Char) (line : List Char) :
    snapRowWith dec cm delim line = match fieldsOf cm delim line with
      | none => .skip
      | some fs => snapOfFields dec fs := by unfold snapRowWith; rfl

theorem intRowWith_eq (dec : List Char → Option Node) (cm : Char) (delim : Option Char) (line : List Char) :
    intRowWith dec cm delim line = match fieldsOf cm delim line with
      | none => .skip
      | some fs => intOfFields dec fs := by
  unfold intRowWith
  cases fieldsOf cm delim line with
  | none => rfl
  | some fs => rcases fs with _ | ⟨_, _ | ⟨_, _ | ⟨_, _ | ⟨_, _ | _⟩⟩⟩⟩ <;> rfl

theorem snapRow_eq (cm : Char) (delim : Option Char) (line : List Char) :
    snapRow cm delim line = match fieldsOf cm delim line with
      | none => .skip
      | some fs => snapOfFields nodeOf fs := by unfold snapRow; rfl

theorem intRow_eq (cm : Char) (delim : Option Char) (line : List Char) :
    intRow cm delim line = match fieldsOf cm delim line with
      | none => .skip
      | some fs => intOfFields nodeOf fs :=
  intRowWith_eq nodeOf cm delim line

theorem fieldsOf_match_iff {R : Type} {F : List (List Char) → R} (s b : R) (hs : s ≠ b)
    (o : Option (List (List Char))) :
    (match o with | none => s | some fs => F fs) = b ↔ ∃ fs, o = some fs ∧ F fs = b := by
  cases o <;> simp [hs]

/-- `[]` and `[[]]` are `split()` and `split(d)` of the empty line: a reader that makes of them what it makes of a line
    it does not split (`snapOfFields`, `intOfFields`: skip) need not test for that line -/
theorem fieldsOf_elim {R : Type} (F : List (List Char) → R) {s : R} (h0 : F [] = s) (h1 : F [[]] = s)
    (cm : Char) (delim : Option Char) (l : List Char) :
    (match fieldsOf cm delim l with
      | none => s
      | some fs => F fs) = F (c18t_split delim (strip (cutComment cm l))) := by
  rw [c18t_fieldsOf_eq]
  by_cases h : (cutComment cm l).isEmpty
  · rw [if_pos h, isEmpty_iff.mp h]
    cases delim
    · exact h0.symm
    · exact h1.symm
  · rw [if_neg h]

theorem snapRow_content (cm : Char) (delim : Option Char) (l : List Char) :
    snapRow cm delim l = snapOfFields nodeOf (c18t_split delim (strip (cutComment cm l))) :=
  (snapRow_eq ..).trans (fieldsOf_elim (snapOfFields nodeOf) rfl rfl cm delim l)

theorem intRow_content (cm : Char) (delim : Option Char) (l : List Char) :
    intRow cm delim l = intOfFields nodeOf (c18t_split delim (strip (cutComment cm l))) :=
  (intRow_eq ..).trans (fieldsOf_elim (intOfFields nodeOf) rfl rfl cm delim l)

section
variable {dec : List Char → Option Node}

theorem snapOfFields_short {fs : List (List Char)} (h : fs.length < 3) : snapOfFields dec fs = .skip := by
  rcases fs with _ | ⟨_, _ | ⟨_, _ | ⟨_, _⟩⟩⟩
  · rfl
  · rfl
  · rfl
  · exact absurd h (Nat.not_lt.mpr (Nat.le_add_left ..))

theorem intOfFields_short {fs : List (List Char)} (h : fs.length ≠ 4) : intOfFields dec fs = .skip := by
  rcases fs with _ | ⟨_, _ | ⟨_, _ | ⟨_, _ | ⟨_, _ | _⟩⟩⟩⟩
  case cons.cons.cons.cons.nil => exact absurd rfl h
  all_goals rfl

theorem snapOfFields_take (fs : List (List Char)) : snapOfFields dec (fs.take 4) = snapOfFields dec fs := by
  rcases fs with _ | ⟨_, _ | ⟨_, _ | ⟨_, _ | ⟨_, _ | _⟩⟩⟩⟩ <;> rfl

-- stated on field lists, so that `C18_bad_iff`, with its seven `fs[i]` under a dependent `∃ h3`, meets each `Option`
-- match already decided
theorem snapOfFields_three_bad (u v t : List Char) :
    snapOfFields dec [u, v, t] = .bad ↔ dec u = none ∨ dec v = none ∨ intOf t = none := by
  rw [snapOfFields]
  cases dec u
  · simp
  cases dec v
  · simp
  cases intOf t <;> simp

theorem snapOfFields_four_bad (u v t e : List Char) (rest : List (List Char)) :
    snapOfFields dec (u :: v :: t :: e :: rest) = .bad
      ↔ dec u = none ∨ dec v = none ∨ intOf t = none ∨ intOf e = none := by
  rw [snapOfFields]
  cases dec u
  · simp
  cases dec v
  · simp
  cases intOf t
  · simp
  cases intOf e <;> simp

theorem intOfFields_four_bad (u v op t : List Char) :
    intOfFields dec [u, v, op, t] = .bad ↔ dec u = none ∨ dec v = none ∨ intOf t = none := by
  rw [intOfFields]
  cases dec u
  · simp
  cases dec v
  · simp
  cases intOf t <;> simp

theorem snapOfFields_row {u v t : List Char} {a b : Node} {c : Int} (hu : dec u = some a) (hv : dec v = some b)
    (ht : intOf t = some c) : snapOfFields dec [u, v, t] = .row a b c none := by
  simp only [snapOfFields, hu, hv, ht]

theorem intOfFields_row {u v t : List Char} {a b : Node} {c : Int} (plus : Bool) (hu : dec u = some a)
    (hv : dec v = some b) (ht : intOf t = some c) :
    intOfFields dec [u, v, [if plus then '+' else '-'], t] = .row { t := c, u := a, v := b, plus := plus } := by
  simp only [intOfFields, hu, hv, ht]
  cases plus <;> rfl

end

def RowS.line : RowS → Line (Node × Node × Int × Option Int)
  | .skip => .skip
  | .bad => .stop .type
  | .row u v t e => .row (u, v, t, e)

def RowI.line : RowI → Line Ev
  | .skip => .skip
  | .bad => .stop .type
  | .row r => .row r

theorem RowS.line_stop {r : RowS} {e : Err} (h : r.line = .stop e) : r = .bad ∧ e = .type := by
  cases r <;> cases h
  exact ⟨rfl, rfl⟩

theorem RowI.line_stop {r : RowI} {e : Err} (h : r.line = .stop e) : r = .bad ∧ e = .type := by
  cases r <;> cases h
  exact ⟨rfl, rfl⟩

/-- the fields `read_ids` converts, of a line split into `s` -/
def c18t_idFields (interactions : Bool) (s : List (List Char)) : List (List Char) :=
  if interactions then (if s.length == 4 then (s.drop 3).take 1 else [])
  else (if s.length ≥ 3 then (s.drop 2).take 2 else [])

def Line.ts {ρ : Type} (ts : ρ → List Int) : Line ρ → List Int
  | .row r => ts r
  | _ => []

def c18t_tsS (r : Node × Node × Int × Option Int) : List Int := r.2.2.1 :: r.2.2.2.toList

theorem snapOfFields_ids {dec : List Char → Option Node} {fs : List (List Char)} (h : snapOfFields dec fs ≠ .bad) :
    (c18t_idFields false fs).mapM intOf = some ((snapOfFields dec fs).line.ts c18t_tsS) := by
  -- a row that is not refused converted all its fields: it is the row of the values
  rcases fs with _ | ⟨u, _ | ⟨v, _ | ⟨t, _ | ⟨e, rest⟩⟩⟩⟩
  · rfl
  · rfl
  · rfl
  · rw [ne_eq, snapOfFields_three_bad, not_or, not_or] at h
    obtain ⟨a, ha⟩ := Option.ne_none_iff_exists'.1 h.1
    obtain ⟨b, hb⟩ := Option.ne_none_iff_exists'.1 h.2.1
    obtain ⟨c, hc⟩ := Option.ne_none_iff_exists'.1 h.2.2
    rw [snapOfFields_row ha hb hc]
    exact (mapM_cons ..).trans (hc ▸ rfl)
  · rw [ne_eq, snapOfFields_four_bad, not_or, not_or, not_or] at h
    obtain ⟨a, ha⟩ := Option.ne_none_iff_exists'.1 h.1
    obtain ⟨b, hb⟩ := Option.ne_none_iff_exists'.1 h.2.1
    obtain ⟨c, hc⟩ := Option.ne_none_iff_exists'.1 h.2.2.1
    obtain ⟨d, hd⟩ := Option.ne_none_iff_exists'.1 h.2.2.2
    simp only [snapOfFields, ha, hb, hc, hd]
    show [t, e].mapM intOf = some [c, d]
    rw [mapM_cons, mapM_cons, hc, hd]
    rfl

theorem intOfFields_ids {dec : List Char → Option Node} {fs : List (List Char)} (h : intOfFields dec fs ≠ .bad) :
    (c18t_idFields true fs).mapM intOf = some ((intOfFields dec fs).line.ts fun r => [r.t]) := by
  rcases fs with _ | ⟨u, _ | ⟨v, _ | ⟨op, _ | ⟨t, _ | _⟩⟩⟩⟩
  case cons.cons.cons.cons.nil =>
    rw [ne_eq, intOfFields_four_bad, not_or, not_or] at h
    obtain ⟨a, ha⟩ := Option.ne_none_iff_exists'.1 h.1
    obtain ⟨b, hb⟩ := Option.ne_none_iff_exists'.1 h.2.1
    obtain ⟨c, hc⟩ := Option.ne_none_iff_exists'.1 h.2.2
    simp only [intOfFields, ha, hb, hc]
    exact (mapM_cons ..).trans (hc ▸ rfl)
  all_goals rfl

end Dynetx
