import DynetxProofs.ConfWindow
import Mathlib.Algebra.Order.Field.Rat
import Mathlib.Algebra.Order.Field.Basic
import Mathlib.Algebra.Order.BigOperators.Group.List
import Batteries.Data.List.Perm
import Mathlib.Tactic.NormNum
/-
  C20: `delta_conformity` scores lie in [-1, 1]; `None` exactly on an empty window; keys of the result.

  The four models of the node score (`nodeScore`, `nodeScoreW`, `nodeScoreP`, `nodeScoreH`) are one skeleton,
  `scoreOf sim w td`; the bound, the all-equal clause and congruence are read off its closed form (`scoreOf_eq`) once.

  `ptype : Nat`, here and in the other C20 files, is `path_type`: 0 `shortest`, 1 `fastest`, 2 `foremost`,
  3 `fastest_shortest`, 4 and every larger number `shortest_fastest` (`selectPaths`, DynetxModel/Conformity.lean).  Python
  raises `KeyError` on any other string; the model has no such call.
-/
namespace Dynetx

theorem foldl_add_zero (l : List Rat) : l.foldl (· + ·) 0 = l.sum := List.sum_eq_foldl.symm

theorem abs_sum_map_le {α : Type} (l : List α) (f g : α → Rat) (h : ∀ x ∈ l, |f x| ≤ g x) :
    |(l.map f).sum| ≤ (l.map g).sum := by
  induction l with
  | nil => exact abs_zero.le
  | cons x xs ih =>
    simp only [List.map_cons, List.sum_cons]
    exact (abs_add_le _ _).trans
      (add_le_add (h x List.mem_cons_self) (ih fun y hy => h y (List.mem_cons_of_mem _ hy)))

theorem abs_div_le_one {x c : Rat} (h : |x| ≤ c) : |x / c| ≤ 1 :=
  (abs_div x c).trans_le (div_le_one_of_le₀ (h.trans (le_abs_self c)) (abs_nonneg c))

/-- `l.length ≤ n`, not `=`: the nodes skipped for a missing time-varying value make the summands fewer -/
theorem avg_abs_le (l : List Rat) (n : Nat) (hlen : l.length ≤ n) (h : ∀ x ∈ l, |x| ≤ 1) :
    |l.foldl (· + ·) 0 / (n : Rat)| ≤ 1 := by
  have h1 : |l.sum| ≤ (l.length : Rat) := by
    have := abs_sum_map_le l id (fun _ => 1) h
    rwa [List.map_id, List.map_const', List.sum_replicate, nsmul_one] at this
  rw [foldl_add_zero]
  exact abs_div_le_one (h1.trans (Rat.natCast_le_natCast.2 hlen))

theorem normConstW_eq (w : Nat → Rat) (m : Nat) :
    normConstW w m = ((List.range' 1 m).map (fun d => (1 : Rat) / w d)).sum := by
  unfold normConstW
  rw [foldl_add_zero, List.range'_eq_map_range, List.map_map]
  simp only [Function.comp_def, Nat.add_comm]

theorem inv_weight_pos {w : Nat → Rat} (hw : ∀ d, 1 ≤ d → 0 < w d) {l : List Nat} (hl : ∀ d ∈ l, 1 ≤ d) :
    ∀ x ∈ l.map (fun d => 1 / w d), 0 < x :=
  List.forall_mem_map.2 fun d hd => by rw [Rat.div_def, Rat.one_mul]; exact Rat.inv_pos.2 (hw d (hl d hd))

theorem abs_div_weight_le {s w : Rat} (hw : 0 < w) (hs : |s| ≤ 1) : |s / w| ≤ 1 / w := by
  rw [abs_div, abs_of_pos hw, Rat.div_def, Rat.div_def]
  exact Rat.mul_le_mul_of_nonneg_right hs (Rat.le_of_lt (Rat.inv_pos.2 hw))

theorem normConstW_pos (w : Nat → Rat) (hw : ∀ d, 1 ≤ d → 0 < w d) (m : Nat) (hm : 1 ≤ m) : 0 < normConstW w m := by
  rw [normConstW_eq]
  exact List.sum_pos _ (inv_weight_pos hw fun d hd => (List.mem_range'_1.1 hd).1)
    (by rw [ne_eq, List.map_eq_nil_iff, List.range'_eq_nil_iff]; exact Nat.ne_of_gt hm)

theorem pow_weight_pos (alpha : Nat) : ∀ d, 1 ≤ d → (0 : Rat) < ((d : Nat) : Rat) ^ alpha :=
  fun _ hd => Rat.pow_pos (Rat.natCast_pos.2 hd)

theorem normConst_eq_W (m alpha : Nat) : normConst m alpha = normConstW (fun d => ((d : Nat) : Rat) ^ alpha) m := rfl

theorem normConst_eq (m alpha : Nat) :
    normConst m alpha = ((List.range m).map (fun i => (1 : Rat) / (((i + 1 : Nat) : Rat) ^ alpha))).sum := by
  unfold normConst; rw [foldl_add_zero]

theorem normConst_pos (m alpha : Nat) (hm : 1 ≤ m) : 0 < normConst m alpha :=
  normConstW_pos _ (pow_weight_pos alpha) m hm

theorem core_abs_sum_le (ranks : List Nat) (m : Nat) (w : Nat → Rat) (hw : ∀ d, 1 ≤ d → 0 < w d) (sim : Nat → Rat)
    (hnd : ranks.Nodup) (hr : ∀ d ∈ ranks, 1 ≤ d ∧ d ≤ m) (hs : ∀ d ∈ ranks, |sim d| ≤ 1) :
    |(ranks.map (fun d => sim d / w d)).sum| ≤ normConstW w m := by
  rw [normConstW_eq]
  refine (abs_sum_map_le ranks _ (fun d => 1 / w d) fun d hd =>
    abs_div_weight_le (hw d (hr d hd).1) (hs d hd)).trans ?_
  -- a duplicate-free list inside `[1, m]` is, up to order, a sublist of `[1, …, m]`
  obtain ⟨l, hperm, hsub⟩ := List.subperm_of_subset (l₂ := List.range' 1 m) hnd
    (fun d hd => List.mem_range'_1.2 ⟨(hr d hd).1, Nat.lt_one_add_iff.2 (hr d hd).2⟩)
  rw [← (hperm.map _).sum_eq]
  exact (hsub.map _).sum_le_sum fun x hx =>
    (inv_weight_pos hw (fun d hd => (List.mem_range'_1.1 hd).1) x hx).le

/-- item 3 of the property as it is stated there, for an ARBITRARY duplicate-free list of ranks in `[1, m]` that
    contains `m`.  The node scores do not pass through it: their ranks are exactly `1, …, k` (`ranksOf_eq_range'`), and
    `scoreOf_bound` compares the two sums term by term. -/
theorem core_bound (ranks : List Nat) (m alpha : Nat) (sim : Nat → Rat)
    (hnd : ranks.Nodup) (hpos : ∀ d ∈ ranks, 1 ≤ d) (hle : ∀ d ∈ ranks, d ≤ m) (hm : m ∈ ranks)
    (hs : ∀ d, |sim d| ≤ 1) :
    |(ranks.map (fun d => sim d / ((d : Nat) : Rat) ^ alpha)).sum| ≤ normConst m alpha
    ∧ 0 < normConst m alpha
    ∧ -1 ≤ (ranks.map (fun d => sim d / ((d : Nat) : Rat) ^ alpha)).sum / normConst m alpha
    ∧ (ranks.map (fun d => sim d / ((d : Nat) : Rat) ^ alpha)).sum / normConst m alpha ≤ 1
    ∧ (ranks.map (fun d => sim d / ((d : Nat) : Rat) ^ alpha)).foldl (· + ·) 0
        = (ranks.map (fun d => sim d / ((d : Nat) : Rat) ^ alpha)).sum := by
  have h1 := core_abs_sum_le ranks m _ (pow_weight_pos alpha) sim hnd (fun d hd => ⟨hpos d hd, hle d hd⟩)
    (fun d _ => hs d)
  have h2 := normConst_pos m alpha (hpos m hm)
  have h3 := abs_le.1 (abs_div_le_one h1)
  exact ⟨h1, h2, h3.1, h3.2, foldl_add_zero _⟩

theorem mem_sortedSetNat {l : List Nat} {a : Nat} : a ∈ sortedSetNat l ↔ a ∈ l := by
  unfold sortedSetNat; rw [List.mem_eraseDups, List.mem_mergeSort]

theorem sortedSetNat_eq_nil {l : List Nat} : sortedSetNat l = [] ↔ l = [] := by
  simp only [List.eq_nil_iff_forall_not_mem, mem_sortedSetNat]

theorem sortedSetNat_nodup (l : List Nat) : (sortedSetNat l).Nodup := nodup_eraseDups _

theorem sortedSetNat_pairwise (l : List Nat) : (sortedSetNat l).Pairwise (· ≤ ·) := by
  unfold sortedSetNat
  have h : (l.mergeSort (fun a b => decide (a ≤ b))).Pairwise (fun a b => decide (a ≤ b) = true) :=
    List.pairwise_mergeSort (le := fun a b => decide (a ≤ b))
      (fun a b c h1 h2 => decide_eq_true (Nat.le_trans (of_decide_eq_true h1) (of_decide_eq_true h2)))
      (fun a b => by simp only [Bool.or_eq_true, decide_eq_true_eq]; exact Nat.le_total a b) l
  exact (h.sublist (eraseDups_sublist _)).imp of_decide_eq_true

/-- `f` of `__label_frequency`: the share of like-labelled neighbours, or 1 when that is 0 -/
def factor (cnt len : Nat) : Rat :=
  if (if len > 0 then (cnt : Rat) / (len : Rat) else 0) > 0 then (if len > 0 then (cnt : Rat) / (len : Rat) else 0) else 1

theorem factor_abs_le (cnt len : Nat) (hcl : cnt ≤ len) : |factor cnt len| ≤ 1 := by
  fun_cases factor cnt len
  · exact abs_div_le_one ((Nat.abs_cast cnt).trans_le (Rat.natCast_le_natCast.2 hcl))
  · exact abs_zero.trans_le zero_le_one
  · exact abs_one.le

theorem abs_mul_le_one {s f : Rat} (hs : |s| ≤ 1) (hf : |f| ≤ 1) : |s * f| ≤ 1 := by
  rw [abs_mul]; exact mul_le_one₀ hs (abs_nonneg f) hf

theorem labelFrequencyL_abs_le (g : Graph) (lab : Node → Nat) (u : Node) (nodes : List Node) (td : List (Node × Nat)) :
    |labelFrequencyL g lab u nodes td| ≤ 1 := by
  unfold labelFrequencyL
  refine avg_abs_le _ _ (List.length_map _).le ?_
  intro x hx
  obtain ⟨v, _, rfl⟩ := List.mem_map.1 hx
  refine abs_mul_le_one ?_ (factor_abs_le _ _ (List.length_filter_le _ _))
  split
  · exact abs_one.le
  · exact (abs_neg _).trans_le abs_one.le

theorem labelFrequencyL_label (g : Graph) (u : Node) (nodes : List Node) (td : List (Node × Nat)) :
    labelFrequencyL g g.label u nodes td = labelFrequency g u nodes td := rfl

/- `hne` is kept because the Python divides by `len(nodes)`; in the model `0 / 0 = 0`, so it is not used -/
set_option linter.unusedVariables false in
theorem labelFrequency_bound (g : Graph) (u : Node) (nodes : List Node) (td : List (Node × Nat))
    (hne : nodes ≠ []) :
    -1 ≤ labelFrequency g u nodes td ∧ labelFrequency g u nodes td ≤ 1 :=
  abs_le.1 (labelFrequencyL_abs_le g g.label u nodes td)

theorem remapDistances_eq (td : List (Node × Nat)) :
    remapDistances td = td.map (fun p => (p.1, (sortedSetNat (td.map (·.2))).idxOf p.2 + 1)) := rfl

theorem remapDistances_dense (td : List (Node × Nat)) :
    ∀ d, (∃ p ∈ remapDistances td, p.2 = d) ↔ (1 ≤ d ∧ d ≤ (sortedSetNat (td.map (·.2))).length) := by
  intro d
  rw [remapDistances_eq]
  constructor
  · rintro ⟨p, hp, rfl⟩
    obtain ⟨q, hq, rfl⟩ := List.mem_map.1 hp
    exact ⟨Nat.succ_pos _,
      List.idxOf_lt_length_iff.2 (mem_sortedSetNat.2 (List.mem_map_of_mem (f := (·.2)) hq))⟩
  · rintro ⟨h1, h2⟩
    have hi : d - 1 < (sortedSetNat (td.map (·.2))).length := Nat.sub_one_lt_of_le h1 h2
    obtain ⟨q, hq, hq2⟩ := List.mem_map.1 (mem_sortedSetNat.1 (List.getElem_mem hi))
    refine ⟨_, List.mem_map_of_mem hq, ?_⟩
    simp only [hq2]
    rw [(sortedSetNat_nodup _).idxOf_getElem]
    exact Nat.sub_add_cancel h1

/-- `ranks` of `nodeScore` (DynetxModel/Conformity.lean) -/
def ranksOf (td : List (Node × Nat)) : List Nat := sortedSetNat ((remapDistances td).map (·.2))

/-- its `nodes` at the rank `d` -/
def nodesAtRank (td : List (Node × Nat)) (d : Nat) : List Node :=
  ((remapDistances td).filter (fun e => e.2 == d)).map (·.1)

/-- what the four node scores compute: per dense rank `d` of the distance table `td` the similarity `sim d` of the
    nodes at that rank, divided by the weight `w d`, summed and normalised -/
def scoreOf (sim w : Nat → Rat) (td : List (Node × Nat)) : Rat :=
  let raw := ((ranksOf td).map (fun (d : Nat) => if d == 0 then (0 : Rat) else sim d / w d)).foldl (· + ·) 0
  match (ranksOf td).getLast? with
  | none => raw
  | some mx => raw / normConstW w mx

theorem nodeScoreW_eq (g : Graph) (sp : c13_Res) (ptype : Nat) (w : Nat → Rat) (u : Node) :
    nodeScoreW g sp ptype w u = scoreOf (fun d => labelFrequencyL g g.label u
      (nodesAtRank (tDistances sp ptype u) d) (tDistances sp ptype u)) w (tDistances sp ptype u) := rfl

theorem nodeScore_eq_W (g : Graph) (sp : List ((Node × Node) × List TPath)) (ptype alpha : Nat) (u : Node) :
    nodeScore g sp ptype alpha u = nodeScoreW g sp ptype (fun d => ((d : Nat) : Rat) ^ alpha) u := rfl

theorem nodeScoreP_eq (g : Graph) (tab : LabelTable) (pr : List Nat) (sp : c13_Res) (ptype alpha : Nat) (u : Node) :
    nodeScoreP g tab pr sp ptype alpha u = scoreOf (fun d => profileFrequency g tab pr u
      (nodesAtRank (tDistances sp ptype u) d) (tDistances sp ptype u)) (fun d => ((d : Nat) : Rat) ^ alpha)
      (tDistances sp ptype u) := rfl

theorem ranksOf_eq_range' (td : List (Node × Nat)) :
    ranksOf td = List.range' 1 (sortedSetNat (td.map (·.2))).length := by
  have hnd : (ranksOf td).Nodup := sortedSetNat_nodup _
  have hperm : (ranksOf td).Perm (List.range' 1 (sortedSetNat (td.map (·.2))).length) := by
    rw [List.perm_ext_iff_of_nodup hnd (List.nodup_range' 1 Nat.one_pos)]
    intro d
    unfold ranksOf
    rw [mem_sortedSetNat, List.mem_map, remapDistances_dense td d, List.mem_range'_1, Nat.lt_one_add_iff]
  exact hperm.eq_of_pairwise (fun a b _ _ h1 h2 => Nat.le_antisymm h1 h2) (sortedSetNat_pairwise _)
    List.pairwise_le_range'

theorem ranksOf_pos {td : List (Node × Nat)} {d : Nat} (hd : d ∈ ranksOf td) : 1 ≤ d := by
  rw [ranksOf_eq_range', List.mem_range'_1] at hd; exact hd.1

theorem ranksOf_eq_nil {td : List (Node × Nat)} : ranksOf td = [] ↔ td = [] := by
  unfold ranksOf
  rw [sortedSetNat_eq_nil, List.map_eq_nil_iff, remapDistances_eq, List.map_eq_nil_iff]

/-- the ranks are positive: the test `d == 0` of the loop never fires -/
theorem scoreOf_raw (sim w : Nat → Rat) (td : List (Node × Nat)) :
    scoreOf sim w td = match (ranksOf td).getLast? with
      | none => ((ranksOf td).map fun d => sim d / w d).foldl (· + ·) 0
      | some mx => ((ranksOf td).map fun d => sim d / w d).foldl (· + ·) 0 / normConstW w mx := by
  unfold scoreOf
  rw [List.map_congr_left (g := fun d => sim d / w d) fun d hd =>
    if_neg (mt beq_iff_eq.1 (Nat.ne_of_gt (ranksOf_pos hd)))]

/-- the closed form: both sums run over the same ranks (`0 / 0 = 0` covers the node that reaches nothing) -/
theorem scoreOf_eq (sim w : Nat → Rat) (td : List (Node × Nat)) :
    scoreOf sim w td = ((ranksOf td).map (fun d => sim d / w d)).sum / ((ranksOf td).map (fun d => 1 / w d)).sum := by
  rw [scoreOf_raw, foldl_add_zero, ranksOf_eq_range', List.getLast?_range']
  by_cases hk : (sortedSetNat (td.map (·.2))).length = 0
  · simp only [hk, if_true, List.range'_zero, List.map_nil, List.sum_nil, div_zero]
  · simp only [hk, if_false, normConstW_eq, Nat.add_sub_cancel_left]

theorem scoreOf_bound (sim w : Nat → Rat) (td : List (Node × Nat)) (hw : ∀ d, 1 ≤ d → 0 < w d)
    (hs : ∀ d ∈ ranksOf td, |sim d| ≤ 1) : -1 ≤ scoreOf sim w td ∧ scoreOf sim w td ≤ 1 := by
  rw [scoreOf_eq]
  exact abs_le.1 (abs_div_le_one
    (abs_sum_map_le _ _ _ fun d hd => abs_div_weight_le (hw d (ranksOf_pos hd)) (hs d hd)))

theorem scoreOf_one (sim w : Nat → Rat) (td : List (Node × Nat)) (hw : ∀ d, 1 ≤ d → 0 < w d)
    (hs : ∀ d ∈ ranksOf td, sim d = 1) : scoreOf sim w td = if td = [] then 0 else 1 := by
  rw [scoreOf_eq, List.map_congr_left (g := fun d => 1 / w d) (fun d hd => by rw [hs d hd])]
  split
  · next h => simp only [ranksOf_eq_nil.2 h, List.map_nil, List.sum_nil, div_zero]
  · next h =>
    exact div_self (List.sum_pos _ (inv_weight_pos hw fun _ => ranksOf_pos)
      (by rwa [ne_eq, List.map_eq_nil_iff, ranksOf_eq_nil])).ne'

theorem scoreOf_congr {sim sim' : Nat → Rat} (w : Nat → Rat) (td : List (Node × Nat))
    (h : ∀ d ∈ ranksOf td, sim d = sim' d) : scoreOf sim w td = scoreOf sim' w td := by
  rw [scoreOf_eq, scoreOf_eq, List.map_congr_left (fun d hd => by rw [h d hd])]

theorem mem_nodesAtRank_iff {td : List (Node × Nat)} {d : Nat} {v : Node} :
    v ∈ nodesAtRank td d ↔ (v, d) ∈ remapDistances td := by
  simp only [nodesAtRank, List.mem_map, List.mem_filter, beq_iff_eq]
  exact ⟨by rintro ⟨p, ⟨hp, rfl⟩, rfl⟩; exact hp, fun h => ⟨(v, d), ⟨h, rfl⟩, rfl⟩⟩

theorem mem_nodesAtRank {td : List (Node × Nat)} {d : Nat} {v : Node} (h : v ∈ nodesAtRank td d) :
    v ∈ td.map (·.1) := by
  rw [mem_nodesAtRank_iff, remapDistances_eq] at h
  obtain ⟨q, hq, hqe⟩ := List.mem_map.1 h
  exact List.mem_map.2 ⟨q, hq, (Prod.ext_iff.1 hqe).1⟩

theorem nodesAtRank_ne_nil {td : List (Node × Nat)} {d : Nat} (h : d ∈ ranksOf td) :
    nodesAtRank td d ≠ [] := by
  obtain ⟨p, hp, rfl⟩ := List.mem_map.1 (mem_sortedSetNat.1 h)
  exact List.ne_nil_of_mem (mem_nodesAtRank_iff.2 hp)

/-- **C20 (bound, any exponent).**  `w` is any table of rational weights positive on `1, 2, …`: in particular
    `w d = d ** alpha` for a real `alpha`, as the floats Python computes (each float is a rational). -/
theorem C20W_bound (g : Graph) (sp : List ((Node × Node) × List TPath)) (ptype : Nat) (w : Nat → Rat)
    (hw : ∀ d, 1 ≤ d → 0 < w d) (u : Node) :
    -1 ≤ nodeScoreW g sp ptype w u ∧ nodeScoreW g sp ptype w u ≤ 1 :=
  scoreOf_bound _ w _ hw (fun _ _ => labelFrequencyL_abs_le g g.label u _ _)

/-- **C20 (bound).** -/
theorem C20_bound (g : Graph) (sp : List ((Node × Node) × List TPath)) (ptype alpha : Nat) (u : Node) :
    -1 ≤ nodeScore g sp ptype alpha u ∧ nodeScore g sp ptype alpha u ≤ 1 :=
  C20W_bound g sp ptype _ (pow_weight_pos alpha) u

theorem factor_eq_one (len : Nat) : factor len len = 1 := by
  fun_cases factor len len
  · next hl => exact div_self (Rat.ne_of_gt (Rat.natCast_pos.2 hl))
  · next h hl => exact absurd h (by rw [if_neg hl]; exact Rat.lt_irrefl)
  · rfl

theorem labelFrequencyL_all_equal (g : Graph) (lab : Node → Nat) (u : Node) (nodes : List Node) (td : List (Node × Nat))
    (hne : nodes ≠ [])
    (hn : ∀ v ∈ nodes, lab v = lab u)
    (hnb : ∀ v ∈ nodes, ∀ t, ∀ x ∈ g.neighbors v t, lab x = lab v) :
    labelFrequencyL g lab u nodes td = 1 := by
  unfold labelFrequencyL
  dsimp only
  rw [foldl_add_zero, List.map_congr_left (g := fun _ => (1 : Rat)), List.map_const', List.sum_replicate]
  · have : (nodes.length : Rat) ≠ 0 := Rat.ne_of_gt (Rat.natCast_pos.2 (List.length_pos_iff.2 hne))
    rw [nsmul_one, div_self this]
  · intro v hv
    have hall : ∀ t, (g.neighbors v t).filter (fun x => lab x == lab v) = g.neighbors v t := fun t =>
      List.filter_eq_self.2 fun x hx => beq_iff_eq.2 (hnb v hv t x hx)
    have h1 : (lab u == lab v) = true := beq_iff_eq.2 (hn v hv).symm
    rw [h1, if_pos rfl, Rat.one_mul, hall]
    exact factor_eq_one _

/-- **C20 (all equal, any exponent).** -/
theorem C20W_all_equal (g : Graph) (sp : List ((Node × Node) × List TPath)) (ptype : Nat) (w : Nat → Rat)
    (hw : ∀ d, 1 ≤ d → 0 < w d) (u : Node)
    (hn : ∀ v ∈ (tDistances sp ptype u).map (·.1), g.label v = g.label u)
    (hnb : ∀ v ∈ (tDistances sp ptype u).map (·.1), ∀ t, ∀ x ∈ g.neighbors v t, g.label x = g.label v) :
    nodeScoreW g sp ptype w u = if tDistances sp ptype u = [] then 0 else 1 :=
  scoreOf_one _ w _ hw (fun _ hd => labelFrequencyL_all_equal g g.label u _ _ (nodesAtRank_ne_nil hd)
    (fun v hv => hn v (mem_nodesAtRank hv)) (fun v hv => hnb v (mem_nodesAtRank hv)))

/-- **C20 (all equal).**  One label on the node, on what it reaches and on the neighbours of that: score 1 when it
    reaches something, 0 otherwise. -/
theorem C20_all_equal (g : Graph) (sp : List ((Node × Node) × List TPath)) (ptype alpha : Nat) (u : Node)
    (hn : ∀ v ∈ (tDistances sp ptype u).map (·.1), g.label v = g.label u)
    (hnb : ∀ v ∈ (tDistances sp ptype u).map (·.1), ∀ t, ∀ x ∈ g.neighbors v t, g.label x = g.label v) :
    nodeScore g sp ptype alpha u = if tDistances sp ptype u = [] then 0 else 1 :=
  C20W_all_equal g sp ptype _ (pow_weight_pos alpha) u hn hnb

theorem C20_all_equal' (g : Graph) (sp : List ((Node × Node) × List TPath)) (ptype alpha : Nat) (u : Node)
    (hall : ∀ x y, g.label x = g.label y) :
    nodeScore g sp ptype alpha u = if tDistances sp ptype u = [] then 0 else 1 :=
  C20_all_equal g sp ptype alpha u (fun v _ => hall v u) (fun v _ _ x _ => hall x v)

theorem C20_none_iff_empty (dg : Graph) (start delta : Int) (alphas : List Nat) (ptype : Nat)
    (r : Option (List (Nat × List (Node × Rat))))
    (h : dg.deltaConformity start delta alphas ptype = .ok r) :
    r = none ↔ ∀ g, dg.timeSlice start (some (start + delta)) = .ok g → g.ids = [] := by
  rw [deltaConformity_eq] at h
  obtain ⟨g, hs, ⟨hid, rfl⟩ | ⟨hid, sp, hk⟩⟩ := confWindow_ok h
  · exact ⟨fun _ g' hg' => by cases hs.symm.trans hg'; exact hid, fun _ => rfl⟩
  · cases hk
    exact ⟨fun hr => (nomatch hr), fun hall => absurd (hall g hs) hid⟩

theorem C20_keys (dg : Graph) (start delta : Int) (alphas : List Nat) (ptype : Nat)
    (l : List (Nat × List (Node × Rat)))
    (h : dg.deltaConformity start delta alphas ptype = .ok (some l)) :
    ∃ g, dg.timeSlice start (some (start + delta)) = .ok g ∧ g.ids ≠ [] ∧
      l.map (·.1) = alphas ∧ ∀ e ∈ l, e.2.map (·.1) = g.nodesAt (some start) := by
  rw [deltaConformity_eq] at h
  obtain ⟨g, sp, hs, hid, hk⟩ := confWindow_some h
  cases hk
  refine ⟨g, hs, hid, by simp only [List.map_map, Function.comp_def, List.map_id'], ?_⟩
  intro e he
  obtain ⟨a, _, rfl⟩ := List.mem_map.1 he
  simp only [List.map_map, Function.comp_def, List.map_id']

theorem C20W_natural (dg : Graph) (start delta : Int) (alphas : List Nat) (ptype : Nat) :
    dg.deltaConformity start delta alphas ptype
      = dg.deltaConformityW start delta (alphas.map (fun a => (a, fun d => ((d : Nat) : Rat) ^ a))) ptype := by
  rw [deltaConformity_eq, deltaConformityW_eq]
  simp only [List.map_map, Function.comp_def]
  rfl

/-- **C20 (bound of the whole result, any exponent).** -/
theorem C20W_result (dg : Graph) (start delta : Int) (alphas : List (Nat × (Nat → Rat))) (ptype : Nat)
    (hw : ∀ a ∈ alphas, ∀ d, 1 ≤ d → 0 < a.2 d) (l : List (Nat × List (Node × Rat)))
    (h : dg.deltaConformityW start delta alphas ptype = .ok (some l)) :
    l.map (·.1) = alphas.map (·.1) ∧ ∀ e ∈ l, ∀ nv ∈ e.2, -1 ≤ nv.2 ∧ nv.2 ≤ 1 := by
  rw [deltaConformityW_eq] at h
  obtain ⟨g, sp, _, _, hk⟩ := confWindow_some h
  cases hk
  refine ⟨by simp only [List.map_map, Function.comp_def], ?_⟩
  intro e he nv hnv
  obtain ⟨a, ha, rfl⟩ := List.mem_map.1 he
  obtain ⟨u, _, rfl⟩ := List.mem_map.1 hnv
  exact C20W_bound g sp ptype a.2 (hw a ha) u

theorem C20_result_bound (dg : Graph) (start delta : Int) (alphas : List Nat) (ptype : Nat)
    (l : List (Nat × List (Node × Rat)))
    (h : dg.deltaConformity start delta alphas ptype = .ok (some l)) :
    ∀ e ∈ l, ∀ nv ∈ e.2, -1 ≤ nv.2 ∧ nv.2 ≤ 1 :=
  (C20W_result dg start delta _ ptype
    (fun a ha => by obtain ⟨b, _, rfl⟩ := List.mem_map.1 ha; exact pow_weight_pos b) l (C20W_natural .. ▸ h)).2

/-- the hypothesis is met by tables that are not natural powers, e.g. `w d = (d + 1) / 2` -/
example : ∀ d, 1 ≤ d → (0 : Rat) < (fun d : Nat => ((d : Rat) + 1) / 2) d := by
  intro d _; exact div_pos (Nat.cast_add_one_pos d) two_pos

example : normConst 2 1 = 3 / 2 := by
  rw [normConst_eq]; norm_num [List.range_succ]

end Dynetx
