import DynetxProofs.WFAll
/-
  C05: `stream_interactions()` of a removal-enabled graph built by any history of add calls.  Each clause is the statement
  `wfa_C05_*` of WFAll.lean at the graph a history reaches.
-/
namespace Dynetx

theorem C05_reached (d : Bool) (ops : List Op) :
    let g := ((Graph.empty d true).run ops).1
    WF g ∧ g.removal = true ∧ g.directed = d ∧ EvInv g :=
  have h := fullInv_history d ops
  ⟨h.wf, h.removal, run_directed _ ops, h.ev⟩

theorem C05_chronological (d : Bool) (ops : List Op) :
    ((((Graph.empty d true).run ops).1).stream.map (·.t)).Pairwise (· ≤ ·) :=
  stream_chronological _

theorem C05_no_repeat (d : Bool) (ops : List Op) :
    (((Graph.empty d true).run ops).1).stream.Pairwise
      (fun e f => ¬ (e.t = f.t ∧ sameKey d e.u e.v f.u f.v = true ∧ e.plus = f.plus)) := by
  have h := fullInv_history d ops
  have := wfa_C05_no_repeat _ h.wf h.removal h.snap h.ev
  rwa [run_directed] at this

/-- a '+' entry sits exactly where the pair is present and was absent the instant before -/
theorem C05_plus_iff (d : Bool) (ops : List Op) (a b : Node) (x : Int) :
    let g := ((Graph.empty d true).run ops).1
    (∃ ev ∈ g.stream, ev.plus = true ∧ ev.t = x ∧ sameKey d ev.u ev.v a b = true) ↔
      (g.hasInteraction a b (some x) = true ∧ g.hasInteraction a b (some (x - 1)) = false) := by
  have h := fullInv_history d ops
  have := wfa_C05_plus_iff _ h.wf h.removal h.snap h.ev a b x
  rwa [run_directed] at this

/-- a '-' entry at `x` sits right after the end of a run: present at `x - 1`, absent at `x` -/
theorem C05_minus_sound (d : Bool) (ops : List Op) (a b : Node) (x : Int) :
    let g := ((Graph.empty d true).run ops).1
    (∃ ev ∈ g.stream, ev.plus = false ∧ ev.t = x ∧ sameKey d ev.u ev.v a b = true) →
      (g.hasInteraction a b (some (x - 1)) = true ∧ g.hasInteraction a b (some x) = false) := by
  have h := fullInv_history d ops
  have := wfa_C05_minus_sound _ h.wf h.removal h.snap h.ev a b x
  rwa [run_directed] at this

/-- every stored run of three or more instants is closed by a '-' entry right after its end -/
theorem C05_closed_partial (d : Bool) (ops : List Op) :
    let g := ((Graph.empty d true).run ops).1
    ∀ ed ∈ g.edges, ∀ s ∈ ed.tl, s.1 + 1 < s.2 →
      ∃ ev ∈ g.stream, ev.plus = false ∧ ev.t = s.2 + 1 ∧ sameKey d ed.u ed.v ev.u ev.v = true := by
  have h := fullInv_history d ops
  have := wfa_C05_closed_partial _ h.wf h.removal h.snap h.ev
  rwa [run_directed] at this

/-- every run, of any length, is opened by a '+' entry at its start -/
theorem C05_opened (d : Bool) (ops : List Op) :
    let g := ((Graph.empty d true).run ops).1
    ∀ ed ∈ g.edges, ∀ s ∈ ed.tl,
      ∃ ev ∈ g.stream, ev.plus = true ∧ ev.t = s.1 ∧ sameKey d ed.u ed.v ev.u ev.v = true := by
  have h := fullInv_history d ops
  have := wfa_C05_opened _ h.wf h.removal h.snap h.ev
  rwa [run_directed] at this

/-- D5: two consecutive point adds give the run `[18,19]` and no '-' entry, so `C05_closed_partial` cannot weaken
    `s.1 + 1 < s.2` to `s.1 < s.2` -/
theorem C05_D5_witness :
    let g := ((Graph.empty false true).run [Op.add 1 2 (some 18) none, Op.add 1 2 (some 19) none]).1
    g.timeline 1 2 = some [(18, 19)] ∧
    g.events = [⟨18, 1, 2, true⟩] ∧
    g.hasInteraction 1 2 (some 18) = true ∧ g.hasInteraction 1 2 (some 19) = true ∧
    g.hasInteraction 1 2 (some 20) = false := by
  decide

/-- the same on the stream: the pair stops being present after 19 and no '-' entry says so -/
theorem C05_D5_witness_stream :
    let g := ((Graph.empty false true).run [Op.add 1 2 (some 18) none, Op.add 1 2 (some 19) none]).1
    g.stream = [⟨18, 1, 2, true⟩] ∧ ¬ ∃ ev ∈ g.stream, ev.plus = false := by
  intro g
  have hev : g.events = [⟨18, 1, 2, true⟩] := C05_D5_witness.2.1
  have hst : g.stream = [⟨18, 1, 2, true⟩] := by
    unfold Graph.stream; rw [hev]; exact List.mergeSort_singleton _
  refine ⟨hst, ?_⟩
  rintro ⟨ev, hm, hp⟩
  rw [hst, List.mem_singleton] at hm
  subst hm
  cases hp

end Dynetx
