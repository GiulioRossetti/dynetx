import DynetxProofs.Lemmas.Rebuild
/-
  C06: `time_slice(t_from, t_to)` on a removal-enabled graph.

  The result is a fresh graph of the same class whose presence relation is the presence relation of the
  source intersected with the window `[t_from, t_to]`; its nodes are the endpoints of the interactions
  inside the window and they carry the source's attributes.  No call of the rebuilding loop is rejected.
-/
namespace Dynetx

/-- the four coded cases are exactly the intersection of `[a, b]` with the window -/
theorem clip_eq (tFrom tTo a b : Int) :
    clip tFrom tTo a b = if tTo < a ∨ b < tFrom then none else some (max tFrom a, min tTo b) := by
  unfold clip
  simp only [Bool.or_eq_true, Bool.and_eq_true, decide_eq_true_eq, ge_iff_le, gt_iff_lt]
  by_cases hd : tTo < a ∨ b < tFrom
  · rw [if_pos hd, if_pos hd]
  · rw [if_neg hd, if_neg hd]
    -- which end of `[a, b]` sticks out of the window decides the branch
    by_cases h1 : a ≤ tFrom <;> by_cases h2 : tTo ≤ b
    · rw [if_pos ⟨h1, h2⟩, Int.max_eq_left h1, Int.min_eq_left h2]
    · rw [if_neg (h2 ·.2), if_neg (h2 ·.2), if_pos ⟨h1, by omega⟩, Int.max_eq_left h1, Int.min_eq_right (by omega)]
    · rw [if_neg (h1 ·.1), if_pos ⟨by omega, h2⟩, Int.max_eq_right (by omega), Int.min_eq_left h2]
    · rw [if_neg (h1 ·.1), if_neg (h2 ·.2), if_neg (h1 ·.1), if_pos ⟨by omega, by omega⟩,
        Int.max_eq_right (by omega), Int.min_eq_right (by omega)]

/-- `clip_eq` under the conditions the callers meet (a non-empty interval, a valid window); neither is needed -/
theorem c06_clip_spec (tFrom tTo a b : Int) (hab : a ≤ b) (hw : tFrom ≤ tTo) :
    clip tFrom tTo a b = if tTo < a ∨ b < tFrom then none else some (max tFrom a, min tTo b) :=
  clip_eq tFrom tTo a b

/-- what `time_slice` keeps of one timeline -/
def clipTl (tF tT : Int) (tl : List Span) : List Span := tl.filterMap (fun s => clip tF tT s.1 s.2)

theorem mem_clipTl {tF tT : Int} {tl : List Span} {r : Span} :
    r ∈ clipTl tF tT tl ↔ ∃ s ∈ tl, ¬ (tT < s.1 ∨ s.2 < tF) ∧ r = (max tF s.1, min tT s.2) := by
  unfold clipTl
  simp only [List.mem_filterMap, clip_eq]
  constructor
  · rintro ⟨s, hs, h⟩
    split at h
    · cases h
    · rename_i hn; cases h; exact ⟨s, hs, hn, rfl⟩
  · rintro ⟨s, hs, hn, rfl⟩
    exact ⟨s, hs, by rw [if_neg hn]⟩

theorem memTl_clipTl (tF tT : Int) (tl : List Span) (x : Int) :
    memTl (clipTl tF tT tl) x ↔ tF ≤ x ∧ x ≤ tT ∧ memTl tl x := by
  unfold memTl
  constructor
  · rintro ⟨r, hr, hx⟩
    obtain ⟨s, hs, _, rfl⟩ := mem_clipTl.mp hr
    obtain ⟨h1, h2⟩ := hx
    rw [Int.max_le] at h1
    rw [Int.le_min] at h2
    exact ⟨h1.1, h2.1, s, hs, h1.2, h2.2⟩
  · rintro ⟨h1, h2, s, hs, h3, h4⟩
    exact ⟨_, mem_clipTl.mpr ⟨s, hs, by omega, rfl⟩, Int.max_le.mpr ⟨h1, h3⟩, Int.le_min.mpr ⟨h2, h4⟩⟩

theorem canonAsc_clipTl {tF tT : Int} {tl : List Span} (hw : tF ≤ tT) (h : CanonAsc tl) :
    CanonAsc (clipTl tF tT tl) := by
  rw [canonAsc_iff] at h ⊢
  constructor
  · intro r hr
    obtain ⟨s, hs, hn, rfl⟩ := mem_clipTl.mp hr
    have := h.1 s hs
    exact Int.max_le.mpr ⟨Int.le_min.mpr ⟨hw, by omega⟩, Int.le_min.mpr ⟨by omega, this⟩⟩
  · refine h.2.filterMap _ ?_
    intro s s' hss r hr r' hr'
    rw [clip_eq] at hr hr'
    split at hr
    · cases hr
    · split at hr'
      · cases hr'
      · cases hr; cases hr'
        -- clipping moves an end down and a start up
        exact Int.lt_of_le_of_lt (Int.add_le_add_right (Int.min_le_right _ _) 1)
          (Int.lt_of_lt_of_le hss (Int.le_max_right _ _))

/-- The data with every timeline clipped. The calls `time_slice` makes are the calls of this list (`sliceCalls_eq`),
    and clipping keeps timelines canonical, so `addMany_callsOf` applies to them. -/
def c06_clipData (tF tT : Int) (d : List (Node × Node × List Span)) : List (Node × Node × List Span) :=
  d.map (fun p => (p.1, p.2.1, clipTl tF tT p.2.2))

theorem sliceCalls_eq (tF tT : Int) (d : List (Node × Node × List Span)) :
    sliceCalls tF tT d = callsOf (c06_clipData tF tT d) := by
  unfold sliceCalls callsOf c06_clipData clipTl
  rw [List.flatMap_map]
  congr 1
  funext p
  rw [List.map_filterMap]

theorem c06_sliceCalls_pair {tF tT : Int} {d : List (Node × Node × List Span)} {c : Call4}
    (hc : c ∈ sliceCalls tF tT d) : ∃ p ∈ d, c.1 = p.1 ∧ c.2.1 = p.2.1 := by
  rw [sliceCalls_eq] at hc
  obtain ⟨_, hp', hc'⟩ := List.mem_flatMap.mp hc
  obtain ⟨p, hp, rfl⟩ := List.mem_map.mp hp'
  obtain ⟨s, _, rfl⟩ := List.mem_map.mp hc'
  exact ⟨p, hp, rfl, rfl⟩

/-- what every slice satisfies (`c06_slice_inv`); `used`: no node without an interaction -/
structure c06_Inv (g : Graph) : Prop where
  wf : WF g
  removal : g.removal = true
  nodeInv : NodeInv g
  used : c06_NodesUsed g

theorem c06_addMany_inv {g : Graph} (h : c06_Inv g) (calls : List Call4) : c06_Inv (g.addMany calls).1 :=
  addMany_induction calls h fun _ hg _ _ =>
    ⟨hg.wf.addInteraction .., (addInteraction_removal ..).trans hg.removal,
      addInteraction_nodeInv hg.nodeInv .., c06_used_of_frame hg.used (addInteraction_frame ..)⟩

theorem c06_copyAttrs_names (src dst : List (Node × Nat)) :
    (copyAttrs src dst).map (·.1) = dst.map (·.1) := by
  unfold copyAttrs
  rw [List.map_map]
  rfl

/-- replacing the node table does not touch the edges: presence is unchanged -/
theorem c06_nodes_hasInteraction (h : Graph) (ns : List (Node × Nat)) (u v : Node) (t : Option Int) :
    ({ h with nodes := ns } : Graph).hasInteraction u v t = h.hasInteraction u v t := rfl

theorem c06_nodes_hasNodeFlat (h : Graph) (src : List (Node × Nat)) (n : Node) :
    ({ h with nodes := copyAttrs src h.nodes } : Graph).hasNodeFlat n = h.hasNodeFlat n := by
  show (copyAttrs src h.nodes).any (fun p => p.1 == n) = h.nodes.any (fun p => p.1 == n)
  rw [Bool.eq_iff_iff, q1_any_iff, q1_any_iff, c06_copyAttrs_names]

theorem c06_nodes_inv {h : Graph} (hi : c06_Inv h) (src : List (Node × Nat)) :
    c06_Inv ({ h with nodes := copyAttrs src h.nodes } : Graph) := by
  refine ⟨⟨hi.wf.tl, hi.wf.keys⟩, hi.removal, ⟨?_, ?_⟩, ?_⟩
  · intro e he
    rw [c06_nodes_hasNodeFlat, c06_nodes_hasNodeFlat]
    exact hi.nodeInv.endpoints e he
  · show ((copyAttrs src h.nodes).map (·.1)).Nodup
    rw [c06_copyAttrs_names]; exact hi.nodeInv.nodup
  · intro n hn
    rw [c06_nodes_hasNodeFlat] at hn
    exact hi.used n hn

/-- an inverted window is refused -/
theorem C06_error (g : Graph) (a b : Int) (hlt : b < a) : g.timeSlice a (some b) = .error .value := by
  simp [Graph.timeSlice, hlt]

/-- for every source graph: the loop starts from the empty graph -/
theorem c06_slice_inv {g : Graph} {a : Int} {bo : Option Int} {H : Graph} (hH : g.timeSlice a bo = .ok H) :
    c06_Inv H := by
  obtain ⟨_, h0, hres, rfl⟩ := timeSlice_ok_iff.mp hH
  have hI := c06_addMany_inv (g := Graph.empty g.directed true)
    ⟨WF.empty _ _, rfl, NodeInv.empty _ _, by intro n hn; simp [Graph.hasNodeFlat, Graph.empty] at hn⟩
    (sliceCalls a (bo.getD a) (c06_data g))
  rw [hres] at hI
  exact c06_nodes_inv hI g.nodes

theorem c06_slice_directed {g : Graph} {a : Int} {bo : Option Int} {H : Graph}
    (hH : g.timeSlice a bo = .ok H) : H.directed = g.directed := by
  obtain ⟨_, h0, hres, rfl⟩ := timeSlice_ok_iff.mp hH
  have := addMany_directed (Graph.empty g.directed true) (sliceCalls a (bo.getD a) (c06_data g))
  rw [hres] at this
  exact this

/-- the rebuilding loop on a well-formed source: no call is rejected, and the graph built holds the source's
    presence inside the window -/
theorem c06_loop (g : Graph) (h : WF g) (hr : g.removal = true) (hn : NodeInv g) (a : Int) (bo : Option Int)
    (hw : ∀ b, bo = some b → a ≤ b) :
    ∃ h0, (Graph.empty g.directed true).addMany (sliceCalls a (bo.getD a) (c06_data g)) = (h0, none) ∧
      ∀ u v x, h0.hasInteraction u v (some x) = true ↔
        (a ≤ x ∧ x ≤ bo.getD a ∧ g.hasInteraction u v (some x) = true) := by
  have hwin : a ≤ bo.getD a := by
    cases bo with
    | none => exact Int.le_refl _
    | some b => exact hw b rfl
  have hd := c06_dataOk h hr hn
  obtain ⟨h0, hres, _, hpres⟩ := addMany_callsOf (Graph.empty g.directed true) rfl rfl
    (c06_clipData a (bo.getD a) (c06_data g)) (List.pairwise_map.mpr hd.keys) fun p hp => by
      obtain ⟨q, hq, rfl⟩ := List.mem_map.mp hp
      exact canonAsc_clipTl hwin (hd.canon q hq)
  rw [← sliceCalls_eq] at hres
  refine ⟨h0, hres, fun u v x => (hpres u v x).trans ⟨?_, ?_⟩⟩
  · rintro ⟨_, hp', hk, hm⟩
    obtain ⟨p, hp, rfl⟩ := List.mem_map.mp hp'
    obtain ⟨h1, h2, hm⟩ := (memTl_clipTl _ _ _ x).mp hm
    exact ⟨h1, h2, (hd.pres p hp u v hk x).mpr hm⟩
  · rintro ⟨h1, h2, hx⟩
    obtain ⟨p, hp, hk⟩ := hd.complete u v x hx
    exact ⟨_, List.mem_map_of_mem hp, hk,
      (memTl_clipTl _ _ _ x).mpr ⟨h1, h2, (hd.pres p hp u v hk x).mp hx⟩⟩

/-- a valid window (or no upper end) always yields a graph: no call of the rebuilding loop is rejected -/
theorem C06_ok (g : Graph) (h : WF g) (hr : g.removal = true) (hn : NodeInv g) (a : Int) (bo : Option Int)
    (hw : ∀ b, bo = some b → a ≤ b) : ∃ H, g.timeSlice a bo = .ok H := by
  obtain ⟨h0, hres, _⟩ := c06_loop g h hr hn a bo hw
  exact ⟨_, timeSlice_ok_iff.mpr ⟨hw, h0, hres, rfl⟩⟩

/-- with an upper end given, the call fails exactly on an inverted window -/
theorem C06_invalid_window (g : Graph) (h : WF g) (hr : g.removal = true) (hn : NodeInv g) (a b : Int) :
    g.timeSlice a (some b) = .error .value ↔ b < a := by
  constructor
  · intro herr
    by_cases hlt : b < a
    · exact hlt
    · obtain ⟨H, hH⟩ := C06_ok g h hr hn a (some b) (by intro b' hb'; cases hb'; omega)
      rw [hH] at herr; cases herr
  · exact C06_error g a b

/-- presence in the slice = presence in the source ∩ window; same class, removal-enabled, well formed -/
theorem C06_presence (g : Graph) (h : WF g) (hr : g.removal = true) (hn : NodeInv g) (a : Int) (bo : Option Int)
    (H : Graph) (hH : g.timeSlice a bo = .ok H) :
    (∀ u v x, H.hasInteraction u v (some x) = true ↔
      (a ≤ x ∧ x ≤ bo.getD a ∧ g.hasInteraction u v (some x) = true)) ∧
    H.directed = g.directed ∧ H.removal = true ∧ WF H := by
  obtain ⟨hw, h0, hres, rfl⟩ := timeSlice_ok_iff.mp hH
  obtain ⟨h1, hres1, hpres⟩ := c06_loop g h hr hn a bo hw
  rw [hres] at hres1
  cases hres1
  exact ⟨hpres, c06_slice_directed hH, (c06_slice_inv hH).removal, (c06_slice_inv hH).wf⟩

/-- the exposed timelines of the slice are canonical (C03's statement holds for the result) -/
theorem C06_canonical (g : Graph) (h : WF g) (hr : g.removal = true) (hn : NodeInv g) (a : Int) (bo : Option Int)
    (H : Graph) (hH : g.timeSlice a bo = .ok H) :
    ∀ u v tl, H.timeline u v = some tl → CanonAsc tl :=
  fun _ _ _ ht => ((c06_slice_inv hH).wf.timeline_some (c06_slice_inv hH).removal ht).1

/-- with `C06_presence`: the slice meets the hypotheses of C06 again -/
theorem C06_nodeInv (g : Graph) (h : WF g) (hr : g.removal = true) (hn : NodeInv g) (a : Int) (bo : Option Int)
    (H : Graph) (hH : g.timeSlice a bo = .ok H) : NodeInv H :=
  (c06_slice_inv hH).nodeInv

/-- the nodes of the slice are exactly the endpoints of the interactions inside the window -/
theorem C06_nodes (g : Graph) (h : WF g) (hr : g.removal = true) (hn : NodeInv g) (a : Int) (bo : Option Int)
    (H : Graph) (hH : g.timeSlice a bo = .ok H) :
    ∀ n, H.hasNodeFlat n = true ↔ ∃ m x, a ≤ x ∧ x ≤ bo.getD a ∧
      (g.hasInteraction n m (some x) = true ∨ g.hasInteraction m n (some x) = true) := by
  have hinv := c06_slice_inv hH
  intro n
  rw [q1_hasNodeFlat_iff, q1_nodeList_iff hinv.nodeInv hinv.used]
  simp only [hinv.wf.flat_iff_exists hinv.removal, (C06_presence g h hr hn a bo H hH).1, ← exists_or,
    ← and_or_left]

theorem c06_mem_copyAttrs {src dst : List (Node × Nat)} {n : Node} {k : Nat} (h : (n, k) ∈ copyAttrs src dst)
    (hn : n ∈ src.map (·.1)) : (n, k) ∈ src := by
  unfold copyAttrs at h
  obtain ⟨p, _, hp⟩ := List.mem_map.mp h
  injection hp with hp1 hp2
  subst hp1
  obtain ⟨q, hqm, hq1⟩ := List.mem_map.mp hn
  cases hfind : src.find? (fun q => q.1 == p.1) with
  | none => simpa [hq1] using List.find?_eq_none.mp hfind q hqm
  | some r =>
    rw [hfind] at hp2
    have hr1 : r.1 = p.1 := by simpa using List.find?_some hfind
    rw [← hp2, ← hr1]
    exact List.mem_of_find?_eq_some hfind

/-- the nodes of the slice carry the source's attributes -/
theorem C06_attrs (g : Graph) (h : WF g) (hr : g.removal = true) (hn : NodeInv g) (a : Int) (bo : Option Int)
    (H : Graph) (hH : g.timeSlice a bo = .ok H) :
    ∀ n k, (n, k) ∈ H.nodes → (n, k) ∈ g.nodes := by
  obtain ⟨_, h0, _, hH0⟩ := timeSlice_ok_iff.mp hH
  intro n k hnk
  have hflat : H.hasNodeFlat n = true := (q1_hasNodeFlat_iff H n).mpr (List.mem_map_of_mem hnk)
  obtain ⟨m, x, _, _, h3⟩ := (C06_nodes g h hr hn a bo H hH n).mp hflat
  subst hH0
  refine c06_mem_copyAttrs hnk ?_
  rcases h3 with h3 | h3
  · exact (q2_has_node hn.q2 h3).1
  · exact (q2_has_node hn.q2 h3).2

/-- a slice of a slice is the slice by the intersection of the windows; an absent upper end is the lower end, as in
    `Graph.timeSlice` -/
theorem c06_slice_of_slice (g : Graph) (h : WF g) (hr : g.removal = true) (hn : NodeInv g) (a : Int)
    (bo : Option Int) (c : Int) (co : Option Int) (H K : Graph) (hH : g.timeSlice a bo = .ok H)
    (hK : H.timeSlice c co = .ok K) :
    ∀ u v x, K.hasInteraction u v (some x) = true ↔
      (max a c ≤ x ∧ x ≤ min (bo.getD a) (co.getD c) ∧ g.hasInteraction u v (some x) = true) := by
  have hinv := c06_slice_inv hH
  have hpres := (C06_presence g h hr hn a bo H hH).1
  have hpresK := (C06_presence H hinv.wf hinv.removal hinv.nodeInv c co K hK).1
  intro u v x
  rw [hpresK, hpres, Int.max_le, Int.le_min]
  constructor
  · rintro ⟨h1, h2, h3, h4, h5⟩; exact ⟨⟨h3, h1⟩, ⟨h4, h2⟩, h5⟩
  · rintro ⟨⟨h1, h2⟩, ⟨h3, h4⟩, h5⟩; exact ⟨h2, h4, h1, h3, h5⟩

/-- `c06_slice_of_slice` with both upper ends given -/
theorem C06_slice_of_slice (g : Graph) (h : WF g) (hr : g.removal = true) (hn : NodeInv g) (a b c d : Int)
    (H K : Graph) (hH : g.timeSlice a (some b) = .ok H) (hK : H.timeSlice c (some d) = .ok K) :
    ∀ u v x, K.hasInteraction u v (some x) = true ↔
      (max a c ≤ x ∧ x ≤ min b d ∧ g.hasInteraction u v (some x) = true) :=
  c06_slice_of_slice g h hr hn a (some b) c (some d) H K hH hK

/-- all of the above for the graph reached by any history of calls on a fresh removal-enabled graph -/
theorem C06_history (dflag : Bool) (ops : List Op) (a : Int) (bo : Option Int) :
    let g := ((Graph.empty dflag true).run ops).1
    ((∀ b, bo = some b → a ≤ b) → ∃ H, g.timeSlice a bo = .ok H) ∧
    (∀ b, bo = some b → b < a → g.timeSlice a bo = .error .value) ∧
    ∀ H, g.timeSlice a bo = .ok H →
      (∀ u v x, H.hasInteraction u v (some x) = true ↔
        (a ≤ x ∧ x ≤ bo.getD a ∧ g.hasInteraction u v (some x) = true)) ∧
      H.directed = dflag ∧ H.removal = true ∧ WF H ∧ NodeInv H ∧
      (∀ u v tl, H.timeline u v = some tl → CanonAsc tl) ∧
      (∀ n, H.hasNodeFlat n = true ↔ ∃ m x, a ≤ x ∧ x ≤ bo.getD a ∧
        (g.hasInteraction n m (some x) = true ∨ g.hasInteraction m n (some x) = true)) ∧
      (∀ n k, (n, k) ∈ H.nodes → (n, k) ∈ g.nodes) ∧
      (∀ c d K, H.timeSlice c (some d) = .ok K → ∀ u v x, K.hasInteraction u v (some x) = true ↔
        (max a c ≤ x ∧ x ≤ min (bo.getD a) d ∧ g.hasInteraction u v (some x) = true)) := by
  intro g
  have r := history_ok dflag ops
  have hn : NodeInv g := q1_run_nodeInv _ true ops
  refine ⟨C06_ok g r.wf r.removal hn a bo, ?_, ?_⟩
  · intro b hb hlt; subst hb; exact C06_error g a b hlt
  · intro H hH
    obtain ⟨p1, p2, p3, p4⟩ := C06_presence g r.wf r.removal hn a bo H hH
    exact ⟨p1, p2.trans r.directed, p3, p4, C06_nodeInv g r.wf r.removal hn a bo H hH,
      C06_canonical g r.wf r.removal hn a bo H hH, C06_nodes g r.wf r.removal hn a bo H hH,
      C06_attrs g r.wf r.removal hn a bo H hH,
      fun c d K hK => c06_slice_of_slice g r.wf r.removal hn a bo c (some d) H K hH hK⟩

/-- the pair 0-1 present on `[2,9] ∪ [12,14]` -/
def c06_ex : Graph :=
  (((Graph.empty false true).addInteraction 0 1 (some 2) (some 10)).1.addInteraction 0 1 (some 12) (some 15)).1

example : c06_ex.timeline 0 1 = some [(2, 9), (12, 14)] := by decide

example : (match c06_ex.timeSlice 5 (some 12) with
    | .ok H => H.timeline 0 1
    | .error _ => none) = some [(5, 9), (12, 12)] := by decide

example : sliceCalls 5 12 c06_ex.interactionsData = [(0, 1, 5, some 10), (0, 1, 12, some 13)] := by decide

example : clip 5 12 2 9 = some (5, 9) ∧ clip 5 12 12 14 = some (12, 12) ∧ clip 5 12 13 14 = none ∧
    clip 5 12 6 7 = some (6, 7) ∧ clip 5 12 0 20 = some (5, 12) ∧ clip 5 12 0 4 = none := by decide

end Dynetx
