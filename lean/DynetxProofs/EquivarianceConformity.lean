import DynetxProofs.Equivariance
import DynetxProofs.C20Hier
/-
  C20, clause "scores are invariant under renaming node ids", for time-varying labels and hierarchies (`nodeScoreH`);
  label profiles (`nodeScoreP`) are the case of static labels without hierarchies (`C20H_static`).  The labelling of the
  renamed graph is any table `tab'` with `tab' l (ρ n) = tab l n`.
-/
namespace Dynetx

section
variable {ρ : Node → Node} (hρ : Function.Injective ρ)
include hρ

theorem rn_termH (g : Graph) (lab lab' : Node → LabelVal) (hl : ∀ n, lab' (ρ n) = lab n) (h : Option Hierarchy)
    (au : Nat) (td : List (Node × Nat)) (v : Node) :
    termH (g.rename ρ) lab' h au (rnDist ρ td) (ρ v) = termH g lab h au td v := by
  simp only [termH, rnDist, hl, rn, hρ, rn_beq hρ]

theorem rn_nodeScoreH (g : Graph) (tab tab' : LabelTableH) (hl : ∀ l n, tab' l (ρ n) = tab l n) (hier : Hierarchies)
    (pr : List Nat) (sp : c13_Res) (ptype alpha : Nat) (start : Int) (u : Node) :
    nodeScoreH (g.rename ρ) tab' hier pr (rnGroups ρ sp) ptype alpha start (ρ u)
      = nodeScoreH g tab hier pr sp ptype alpha start u := by
  -- as `rn_nodeScoreW`, the steps named; the loop body is `rn_termH`, and `hl` reads the label of `ρ u`
  simp only [nodeScoreH, profileFrequencyH, labelFrequencyH, rn_tDistances hρ, rn_remapDistances, rn_rank_vals,
    rn_rank_nodes, hl, List.map_map, List.length_map, Function.comp_def, fun l => rn_termH hρ g (tab l) (tab' l) (hl l)]

def rnConfP (ρ : Node → Node) (r : Option (List (Nat × List (List Nat × List (Node × Rat))))) :
    Option (List (Nat × List (List Nat × List (Node × Rat)))) :=
  r.map (fun l => l.map (fun ar => (ar.1, ar.2.map (fun ps => (ps.1, ps.2.map (fun nv => (ρ nv.1, nv.2)))))))

/-- **C20 (node renaming; time-varying labels and hierarchies).** -/
theorem C20H_rename_nodes (dg : Graph) (tab tab' : LabelTableH) (hl : ∀ l n, tab' l (ρ n) = tab l n) (hier : Hierarchies)
    (start delta : Int) (alphas labels : List Nat) (profileSize ptype : Nat) :
    (dg.rename ρ).deltaConformityH tab' hier start delta alphas labels profileSize ptype =
      (dg.deltaConformityH tab hier start delta alphas labels profileSize ptype).map (rnConfP ρ) := by
  rw [deltaConformityH_eq, deltaConformityH_eq, apply_ite (Except.map (rnConfP ρ)), apply_ite (Except.map (rnConfP ρ))]
  refine congrArg (ite _ _) (congrArg (ite _ _) (rn_confWindow hρ _ dg start delta _ _ (fun g sp => ?_)))
  simp only [rn_nodesAt hρ, tagOk_map_key, rn_nodeScoreH hρ g tab tab' hl, tagOk_map_val]
  cases tagOk _ alphas <;> rfl

/-- **C20 (node renaming, profiles).** -/
theorem C20P_rename_nodes (dg : Graph) (tab tab' : LabelTable) (hl : ∀ l n, tab' l (ρ n) = tab l n)
    (start delta : Int) (alphas labels : List Nat) (profileSize ptype : Nat) :
    (dg.rename ρ).deltaConformityP tab' start delta alphas labels profileSize ptype =
      (dg.deltaConformityP tab start delta alphas labels profileSize ptype).map (rnConfP ρ) := by
  rw [← C20H_static, ← C20H_static]
  -- the two tables are written out: left to unification they are found only after a long search
  exact C20H_rename_nodes hρ dg (fun l n => .static (tab l n)) (fun l n => .static (tab' l n))
    (fun l n => congrArg LabelVal.static (hl l n)) (fun _ => none) start delta alphas labels profileSize ptype

end

end Dynetx
