import DynetxProofs.Lemmas.History
import DynetxProofs.Lemmas.Counts
import DynetxProofs.Lemmas.Events
import DynetxProofs.C18Text
namespace Dynetx

/-- what every graph the library builds in removal mode satisfies, with no hypothesis on a source graph
    (`*_wellformed`), and what C03, C04 and C05 follow from (`wfa_*`, `C03_derived_canonical`) -/
structure FullInv (g : Graph) : Prop where
  wf : WF g
  removal : g.removal = true
  snap : SnapInv g
  ev : EvInv g

-- the `wfa_*` statements take the four fields of `FullInv` one by one, also where a proof uses fewer
set_option linter.unusedVariables false

theorem mem_stream_iff (g : Graph) (ev : Ev) : ev ∈ g.stream ↔ ev ∈ g.events :=
  (List.mergeSort_perm _ _).mem_iff

theorem stream_mergeSort (g : Graph) : g.stream.mergeSort (fun a b => decide (a.t ≤ b.t)) = g.stream :=
  List.mergeSort_of_pairwise (pairwise_mergeSort_key (fun e : Ev => e.t) g.events)

theorem stream_noRep {g : Graph} (hn : NoRep g.directed g.events) : NoRep g.directed g.stream := by
  refine (List.Perm.pairwise_iff ?_ (List.mergeSort_perm _ _)).mpr hn
  intro x y hxy hc
  exact hxy ⟨hc.1.symm, sameKey_symm_of hc.2.1, hc.2.2.symm⟩

/-- C04 (`C04_ids`, `C04_counts`) for any graph with the invariants -/
theorem wfa_C04 (g : Graph) (h : WF g) (hr : g.removal = true) (hs : SnapInv g) (hev : EvInv g) :
    g.ids.Pairwise (· < ·) ∧
    (∀ x, x ∈ g.ids ↔ ∃ a b, g.hasInteraction a b (some x) = true) ∧
    (∀ x, g.ips2 x = 2 * (g.edges.filter (fun e => g.hasInteraction e.u e.v (some x))).length) := by
  refine ⟨ids_strict_of_snapsOk hs.ok, fun x => mem_ids_iff h hr hs x, ?_⟩
  intro x
  show lookupSnap g.snaps x = _
  rw [hs.count x]
  unfold Graph.countAt
  rw [List.countP_eq_length_filter]
  exact congrArg (2 * ·.length) (List.filter_congr fun e he => Bool.eq_iff_iff.mpr (h.present_edge_iff hr he x))

-- C05 clause by clause for any graph with the invariants; C05.lean says what each clause claims
theorem wfa_C05_no_repeat (g : Graph) (h : WF g) (hr : g.removal = true) (hs : SnapInv g) (hev : EvInv g) :
    g.stream.Pairwise
      (fun e f => ¬ (e.t = f.t ∧ sameKey g.directed e.u e.v f.u f.v = true ∧ e.plus = f.plus)) :=
  stream_noRep hev.nodup

theorem wfa_C05_plus_iff (g : Graph) (h : WF g) (hr : g.removal = true) (hs : SnapInv g) (hev : EvInv g)
    (a b : Node) (x : Int) :
    (∃ ev ∈ g.stream, ev.plus = true ∧ ev.t = x ∧ sameKey g.directed ev.u ev.v a b = true) ↔
      (g.hasInteraction a b (some x) = true ∧ g.hasInteraction a b (some (x - 1)) = false) := by
  have hk := hev.keyInv h a b
  rw [← Bool.not_eq_true, h.hasInteraction_tlOf hr, h.hasInteraction_tlOf hr, ← (h.canon_tlOf a b).start_iff]
  constructor
  · rintro ⟨ev, hm, hp, ht, hkey⟩
    exact hk.sound x true ⟨ev, (mem_stream_iff g ev).mp hm, ht, hkey, hp⟩
  · rintro ⟨s, hs, rfl⟩
    obtain ⟨ev, hm, h1, h2, h3⟩ := hk.complete s hs true (Or.inl rfl)
    exact ⟨ev, (mem_stream_iff g ev).mpr hm, h3, h1, h2⟩

theorem wfa_C05_minus_sound (g : Graph) (h : WF g) (hr : g.removal = true) (hs : SnapInv g) (hev : EvInv g)
    (a b : Node) (x : Int) :
    (∃ ev ∈ g.stream, ev.plus = false ∧ ev.t = x ∧ sameKey g.directed ev.u ev.v a b = true) →
      (g.hasInteraction a b (some (x - 1)) = true ∧ g.hasInteraction a b (some x) = false) := by
  rintro ⟨ev, hm, hp, rfl, hkey⟩
  obtain ⟨s, hs, h1⟩ := (hev.keyInv h a b).sound ev.t false ⟨ev, (mem_stream_iff g ev).mp hm, rfl, hkey, hp⟩
  have := (h.canon_tlOf a b).end_succ hs
  rw [← Bool.not_eq_true, h.hasInteraction_tlOf hr, h.hasInteraction_tlOf hr, ← h1]
  simpa [mark] using this

theorem wfa_C05_closed_partial (g : Graph) (h : WF g) (hr : g.removal = true) (hs : SnapInv g) (hev : EvInv g) :
    ∀ ed ∈ g.edges, ∀ s ∈ ed.tl, s.1 + 1 < s.2 →
      ∃ ev ∈ g.stream, ev.plus = false ∧ ev.t = s.2 + 1 ∧ sameKey g.directed ed.u ed.v ev.u ev.v = true := by
  intro ed hedm s hs hlen
  obtain ⟨ev, hm, h1, h2, h3⟩ := hev.minus_complete ed hedm s hs hlen
  exact ⟨ev, (mem_stream_iff g ev).mpr hm, h1, h2, h3⟩

theorem wfa_C05_opened (g : Graph) (h : WF g) (hr : g.removal = true) (hs : SnapInv g) (hev : EvInv g) :
    ∀ ed ∈ g.edges, ∀ s ∈ ed.tl,
      ∃ ev ∈ g.stream, ev.plus = true ∧ ev.t = s.1 ∧ sameKey g.directed ed.u ed.v ev.u ev.v = true := by
  intro ed hedm s hs
  obtain ⟨ev, hm, h1, h2, h3⟩ := hev.plus_complete ed hedm s hs
  exact ⟨ev, (mem_stream_iff g ev).mpr hm, h1, h2, h3⟩

theorem invs_of_fresh (g : Graph) (he : g.edges = []) (hv : g.events = []) (hs : g.snaps = []) :
    WF g ∧ SnapInv g ∧ EvInv g := by
  refine ⟨(WF.empty g.directed g.removal).congr he rfl, { ok := hs ▸ snapsOk_empty, count := ?count },
    { nodup := ?nodup, plus_sound := ?plus_sound, plus_complete := ?plus_complete, minus_sound := ?minus_sound,
      minus_complete := ?minus_complete }⟩
  case count => intro x; rw [hs]; unfold Graph.countAt; rw [he]; rfl
  case nodup => rw [hv]; exact List.Pairwise.nil
  case plus_sound => rw [hv]; exact List.forall_mem_nil _
  case plus_complete => rw [he]; exact List.forall_mem_nil _
  case minus_sound => rw [hv]; exact List.forall_mem_nil _
  case minus_complete => rw [he]; exact List.forall_mem_nil _

theorem FullInv.fresh (g : Graph) (he : g.edges = []) (hv : g.events = []) (hs : g.snaps = [])
    (hr : g.removal = true) : FullInv g :=
  have h := invs_of_fresh g he hv hs
  ⟨h.1, hr, h.2.1, h.2.2⟩

theorem wfa_fresh_empty (d : Bool) : FullInv (Graph.empty d true) :=
  FullInv.fresh _ rfl rfl rfl rfl

theorem FullInv.addInteraction {g : Graph} (h : FullInv g) (u v : Node) (t e : Option Int) :
    FullInv (g.addInteraction u v t e).1 :=
  ⟨h.wf.addInteraction u v t e, by rw [addInteraction_removal]; exact h.removal,
    addInteraction_snapInv g h.wf h.removal h.snap u v t e, addInteraction_evInv g h.wf h.removal h.ev u v t e⟩

theorem FullInv.addMany {g : Graph} (h : FullInv g) (calls : List (Node × Node × Int × Option Int)) :
    FullInv (g.addMany calls).1 :=
  addMany_induction calls h fun _ h _ _ => h.addInteraction ..

theorem FullInv.replayRows {g : Graph} (h : FullInv g) (rows : List Ev) : FullInv (g.replayRows rows).1 :=
  replayRows_induction rows h fun _ h _ _ _ _ => h.addInteraction ..

theorem FullInv.run {g : Graph} (h : FullInv g) (ops : List Op) : FullInv (g.run ops).1 :=
  run_induction ops h fun _ h _ _ _ _ => h.addInteraction ..

theorem fullInv_history (d : Bool) (ops : List Op) : FullInv ((Graph.empty d true).run ops).1 :=
  (wfa_fresh_empty d).run ops

/-- how `time_slice`, `to_directed`, `to_undirected` finish: the node table and the graph attribute are replaced -/
theorem FullInv.of_addMany {g h' : Graph} (h : FullInv g) {calls : List Call4}
    (heq : g.addMany calls = (h', none)) (ns : List (Node × Nat)) (ga : Nat) :
    FullInv { h' with nodes := ns, gattr := ga } := by
  -- no invariant reads the node table or the graph attribute
  obtain ⟨wf, hr, sn, ev⟩ : FullInv h' := by have := h.addMany calls; rwa [heq] at this
  exact ⟨⟨wf.tl, wf.keys⟩, hr, ⟨sn.ok, sn.count⟩,
    ⟨ev.nodup, ev.plus_sound, ev.plus_complete, ev.minus_sound, ev.minus_complete⟩⟩

theorem C06_wellformed (g : Graph) (a : Int) (bo : Option Int) (H : Graph) (hH : g.timeSlice a bo = .ok H) :
    FullInv H := by
  unfold Graph.timeSlice at hH
  dsimp only at hH
  split at hH
  · cases hH
  · split at hH
    · cases hH
    · rename_i h' heq
      cases hH
      exact (wfa_fresh_empty g.directed).of_addMany heq _ _

theorem C16_wellformed_toDirected (g H : Graph) (hH : g.toDirected = .ok H) : FullInv H := by
  unfold Graph.toDirected at hH
  dsimp only at hH
  split at hH
  · cases hH
  · rename_i h' heq
    cases hH
    exact (FullInv.fresh _ rfl rfl rfl rfl).of_addMany heq _ _

theorem C16_wellformed_toUndirected (g : Graph) (recip : Bool) (H : Graph) (hH : g.toUndirected recip = .ok H) :
    FullInv H := by
  unfold Graph.toUndirected at hH
  dsimp only at hH
  split at hH
  · cases hH
  · rename_i h' heq
    cases hH
    exact (FullInv.fresh _ rfl rfl rfl rfl).of_addMany heq _ _

theorem C09_wellformed (d : Bool) (rows : List (Node × Node × Int × Option Int)) :
    FullInv (parseSnapshots d rows).1 :=
  (wfa_fresh_empty d).addMany rows

theorem C10_wellformed (d : Bool) (rows : List Ev) : FullInv (parseInteractions d rows).1 :=
  (wfa_fresh_empty d).replayRows rows

theorem C11_wellformed (data : NodeLink) (dflt : Bool) : FullInv (nodeLinkGraph data dflt).1 := by
  unfold nodeLinkGraph
  simp only
  obtain ⟨ns, hns⟩ := nodeLoop_frame data.nodes { Graph.empty (data.directed.getD dflt) true with gattr := data.gattr }
  rw [hns]
  exact (FullInv.fresh _ rfl rfl rfl rfl).addMany _

theorem C18_wellformed_snapshots (d : Bool) (cm : Char) (delim : Option Char) (lines : List (List Char)) :
    FullInv (parseSnapshotsText d cm delim lines).1 := by
  unfold parseSnapshotsText
  rw [c18t_goS, c18t_finish_fst]; exact (wfa_fresh_empty d).addMany _

theorem C18_wellformed_interactions (d : Bool) (cm : Char) (delim : Option Char) (lines : List (List Char)) :
    FullInv (parseInteractionsText d cm delim lines).1 := by
  unfold parseInteractionsText
  rw [c18t_goI, c18t_finish_fst]; exact (wfa_fresh_empty d).replayRows _

theorem C18_wellformed_keys (interactions d : Bool) (cm : Char) (delim : Option Char) (lines : List (List Char)) :
    FullInv (readKeysText interactions d cm delim lines).1 := by
  unfold readKeysText
  split
  · exact wfa_fresh_empty d
  · simp only
    split
    · rw [c18t_keysGoI, c18t_finish_fst]; exact (wfa_fresh_empty d).replayRows _
    · rw [c18t_keysGoS, c18t_finish_fst]; exact (wfa_fresh_empty d).addMany _

theorem C03_derived_canonical (g : Graph) (h : FullInv g) :
    ∀ u v tl, g.timeline u v = some tl →
      CanonAsc tl ∧ ∀ x, memTl tl x ↔ g.hasInteraction u v (some x) = true :=
  fun _ _ _ ht => h.wf.timeline_some h.removal ht

theorem wfa_C03_symmetric (g : Graph) (hd : g.directed = false) (u v : Node) :
    g.timeline v u = g.timeline u v := by
  unfold Graph.timeline
  rw [findEdge_congr g ((sameKey_iff ..).mpr (.inr ⟨hd, rfl, rfl⟩))]

/-- a small undirected graph: pair (0,1) on [0,3] and [6,7], pair (1,2) on [2,2] -/
def wfa_ex : Graph :=
  ((Graph.empty false true).addMany [(0, 1, 0, some 4), (1, 2, 2, none), (1, 0, 6, some 8)]).1

example : wfa_ex.timeline 0 1 = some [(0, 3), (6, 7)] := by decide

example : ∃ H, wfa_ex.timeSlice 1 (some 2) = .ok H ∧ FullInv H ∧
    H.timeline 0 1 = some [(1, 2)] ∧ H.timeline 1 2 = some [(2, 2)] := by
  have hok : (match wfa_ex.timeSlice 1 (some 2) with
      | .ok H => H.timeline 0 1 == some [(1, 2)] && H.timeline 1 2 == some [(2, 2)]
      | .error _ => false) = true := by decide
  cases hH : wfa_ex.timeSlice 1 (some 2) with
  | error e => rw [hH] at hok; cases hok
  | ok H =>
    rw [hH] at hok
    simp only [Bool.and_eq_true, beq_iff_eq] at hok
    exact ⟨H, rfl, C06_wellformed _ _ _ _ hH, hok.1, hok.2⟩

/- `clear()` / `clear_edges()` as overridden in /repo reset the temporal state, so histories may restart after them.
   (`NodeInv` is not among the invariants: `clear_edges` keeps the node table, so it holds afterwards exactly if it held
   before.) -/

theorem C19_clear_consistent (g : Graph) :
    WF g.clear ∧ SnapInv g.clear ∧ EvInv g.clear ∧ g.clear.nodes = [] ∧
    WF g.clearEdges ∧ SnapInv g.clearEdges ∧ EvInv g.clearEdges ∧ g.clearEdges.nodes = g.nodes :=
  have a := invs_of_fresh g.clear rfl rfl rfl
  have b := invs_of_fresh g.clearEdges rfl rfl rfl
  ⟨a.1, a.2.1, a.2.2, rfl, b.1, b.2.1, b.2.2, rfl⟩

theorem C19_clear_presence (g : Graph) (a b : Node) (t : Option Int) :
    g.clear.hasInteraction a b t = false ∧ g.clearEdges.hasInteraction a b t = false ∧
    g.clear.ids = [] ∧ g.clearEdges.ids = [] ∧ g.clear.stream = [] ∧ g.clearEdges.stream = [] :=
  ⟨rfl, rfl, List.mergeSort_nil, List.mergeSort_nil, List.mergeSort_nil, List.mergeSort_nil⟩

end Dynetx
