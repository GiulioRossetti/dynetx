import DynetxProofs.C10
/-
  C10 on the rows written for a graph, by one replay (`c10_reread`).  The event log comes back because, in stream order, a
  `'+'` row at `t` always opens a new run `[t,t]` (the pair is new, or its latest run ended before `t - 1`) and a `'-'` row
  at `t` always finds the latest run of its pair ending at some `b < t` and stretches it to `t - 1`; either records exactly
  the row and drops nothing.  The end of the latest run is the last instant the rows read so far describe (`WF.head_end`
  under the presence clause), which is what `c10s_next_row` starts from.  The `head` clause of `c10s_Inv` says the same in
  terms of rows; it follows from the presence clause and no proof reads it (`c10s_hdEnd`, `c10s_Head`, `c10_spec_of_row`,
  `c10_Inv.head` only state and fill it).  No closedness hypothesis is needed for the stream: the D5 histories lose
  presence on the round trip (`C10_D5_witness`), not the stream.
-/
namespace Dynetx

/-- end of the latest run of a stored pair -/
def c10s_hdEnd (ed : Edge) : Int :=
  match ed.tl with
  | [] => 0
  | s :: _ => s.2

/-- the latest run of the pair `(u,v)` ends at `b`: some row of the pair says so (`'+'` at `b` or
    `'-'` at `b + 1`) and no row of the pair is later than `b + 1` -/
def c10s_Head (d : Bool) (P : List Ev) (u v : Node) (b : Int) : Prop :=
  (∃ ev ∈ P, sameKey d u v ev.u ev.v = true ∧
    ((ev.plus = true ∧ ev.t = b) ∨ (ev.plus = false ∧ ev.t = b + 1))) ∧
  ∀ ev ∈ P, sameKey d u v ev.u ev.v = true → ev.t ≤ b + 1

/-- the state of the reader after the rows `P`, for the stream clause -/
structure c10s_Inv (d : Bool) (g : Graph) (P : List Ev) : Prop where
  base : c10_Inv d g P
  events : g.events = P
  head : ∀ ed ∈ g.edges, c10s_Head d P ed.u ed.v (c10s_hdEnd ed)

/-- every row of a well-formed log speaks of an instant the log describes: its own time (`'+'`), the instant
    before (`'-'`) -/
theorem c10_spec_of_row {d : Bool} {L : List Ev} (hwf : c10_wellFormed d L) {r : Ev} (hr : r ∈ L)
    {a b : Node} (hk : sameKey d r.u r.v a b = true) : ∃ x, c10_spec d L a b x ∧ r.t ≤ x + 1 := by
  cases hp : r.plus with
  | true => exact ⟨r.t, (c10_spec_iff ..).mpr (Or.inl ⟨r, hr, hp, hk, rfl⟩), Int.le_add_one (Int.le_refl _)⟩
  | false =>
    obtain ⟨pre, post, hL⟩ := List.append_of_mem hr
    obtain ⟨t0, hl, hlt⟩ := hwf.2 pre r post hL hp
    rw [c10_latest_congr d pre hk] at hl
    exact ⟨r.t - 1, (c10_spec_iff ..).mpr (Or.inr ⟨pre, r, post, hL, hp, hk, t0, hl, Int.le_sub_one_of_lt hlt,
      Int.sub_one_lt_of_le (Int.le_refl _)⟩), Int.le_of_eq (Int.sub_add_cancel ..).symm⟩

/-- the end of a pair's latest run is its last present instant (`WF.head_end`), and every row of the pair speaks of a
    present instant (`c10_spec_of_row`) -/
theorem c10_Inv.head {d : Bool} {g : Graph} {P : List Ev} (inv : c10_Inv d g P) (hwf : c10_wellFormed d P) :
    ∀ ed ∈ g.edges, c10s_Head d P ed.u ed.v (c10s_hdEnd ed) := by
  intro ed hem
  obtain ⟨⟨a0, b0⟩, rest, htl⟩ := List.exists_cons_of_ne_nil (inv.wf.tl ed hem).1
  have hb : c10s_hdEnd ed = b0 := by simp [c10s_hdEnd, htl]
  rw [hb]
  obtain ⟨hb0, hle⟩ := inv.wf.head_end inv.removal
    (inv.wf.findEdge_of_mem hem (sameKey_refl _ _ _)) htl
  have hbound : ∀ ev ∈ P, sameKey d ed.u ed.v ev.u ev.v = true → ev.t ≤ b0 + 1 := by
    intro ev hev hk
    obtain ⟨x, hx, hxt⟩ := c10_spec_of_row hwf hev (sameKey_symm_of hk)
    exact Int.le_trans hxt (Int.add_le_add_right (hle x ((inv.presence _ _ _).mpr hx)) 1)
  refine ⟨?_, hbound⟩
  rcases (c10_spec_iff ..).mp ((inv.presence _ _ _).mp hb0) with
    ⟨r, hr, hp, hk, hx⟩ | ⟨pre, r, post, hL, hp, hk, t0, _, _, hx⟩
  · exact ⟨r, hr, sameKey_symm_of hk, Or.inl ⟨hp, hx.symm⟩⟩
  · have hr : r ∈ P := hL ▸ List.mem_append_cons_self
    have hk' : sameKey d ed.u ed.v r.u r.v = true := sameKey_symm_of hk
    exact ⟨r, hr, hk', Or.inr ⟨hp, Int.le_antisymm (hbound r hr hk') hx⟩⟩

theorem c10s_fresh {d : Bool} {S P post : List Ev} {r : Ev} (hnr : NoRep d S) (hS : S = P ++ r :: post) :
    ∀ f ∈ P, ¬ (f.t = r.t ∧ sameKey d f.u f.v r.u r.v = true ∧ f.plus = r.plus) := by
  intro f hf
  rw [hS] at hnr
  exact (List.pairwise_append.mp hnr).2.2 f hf r List.mem_cons_self

/-- what the next row `r` can be when `e` is the last instant the rows `P` read so far describe for its pair:
    a `'+'` row leaves a gap after `e`; a `'-'` row comes after `e`, and unless it comes right after `e` no
    `'-'` row for `e + 1` has been read (the `'+'` row of the run that `r` closes would have followed it) -/
theorem c10s_next_row {d : Bool} {S P post : List Ev} {r : Ev} {tl : List Span}
    (hk : KeyInv d r.u r.v tl S) (hc : Canon tl) (hch : (S.map (·.t)).Pairwise (· ≤ ·)) (hnr : NoRep d S)
    (hS : S = P ++ r :: post) {e : Int} (he : c10_spec d P r.u r.v e)
    (hmax : ∀ y, c10_spec d P r.u r.v y → y ≤ e) :
    (r.plus = true → e + 1 < r.t) ∧
    (r.plus = false → e < r.t ∧ (e + 1 < r.t → ¬ hasMark d r.u r.v P (e + 1) false)) := by
  obtain ⟨_, hpre, hbefore⟩ := c10_chrono_split (hS ▸ hch)
  -- the pair is present at `e` in the timeline, and `e` is no later than `r`, which is a mark of a run `q`
  have hpres : memTl tl e := by
    obtain ⟨p, hp, hp1, hp2, _⟩ := (c10_spec_marks hk hc hch e).mp (hS ▸ c10_spec_mono d P (r :: post) _ _ e he)
    exact ⟨p, hp, hp1, hp2⟩
  have hle : e ≤ r.t := by
    obtain ⟨r', hr', hle'⟩ := c10_spec_bound d P _ _ e he
    exact Int.le_trans hle' (hpre r' hr')
  obtain ⟨q, hq, hqt⟩ := hk.sound r.t r.plus ⟨r, hS ▸ List.mem_append_cons_self, rfl, sameKey_refl .., rfl⟩
  unfold mark at hqt
  constructor
  · intro hrp
    rw [hrp, if_pos rfl] at hqt
    -- the rows read do not describe the time of `r`: `r` is not among them, and no `'-'` row is later than `r`
    have hne : e ≠ r.t := by
      rintro rfl
      rcases (c10_spec_iff ..).mp he with ⟨r1, hr1, hp1', hk1, hx⟩ | ⟨pre1, r1, post1, hL, _, _, _, _, _, hx⟩
      · exact c10s_fresh hnr hS r1 hr1 ⟨hx.symm, hk1, by rw [hp1', hrp]⟩
      · exact Int.lt_irrefl _ (Int.lt_of_lt_of_le hx (hpre r1 (hL ▸ List.mem_append_cons_self)))
    -- nor the instant before, at which the pair is absent
    have hgap : e ≠ r.t - 1 := fun h => ((hc.start_iff r.t).mp ⟨q, hq, hqt⟩).2 (h ▸ hpres)
    omega
  · intro hrm
    rw [hrm, if_neg Bool.false_ne_true] at hqt
    refine ⟨Int.lt_iff_le_and_ne.mpr ⟨hle, fun h => (hc.end_succ hq).2 (hqt ▸ h ▸ hpres)⟩, ?_⟩
    -- the `'+'` row of the run that `r` closes has been read, so its time is described
    have hq1 : q.1 ≤ e := by
      obtain ⟨e', he'S, he't, he'k, he'p⟩ := hk.complete q hq true (Or.inl rfl)
      have he't : e'.t = q.1 := he't
      have hlt : e'.t < r.t := he't ▸ hqt ▸ Int.lt_add_one_of_le (hc.all_le q hq)
      exact hmax q.1 ((c10_spec_iff ..).mpr (Or.inl ⟨e', hbefore e' (hS ▸ he'S) hlt, he'p, he'k, he't.symm⟩))
    -- so that run covers `e + 1`, where no run ends
    rintro hlt ⟨f, hf, hft, hfk, hfp⟩
    obtain ⟨p', hp', hpt'⟩ := hk.sound f.t false ⟨f, hS ▸ List.mem_append_left _ hf, rfl, hfk, hfp⟩
    have hpt' : p'.2 + 1 = e + 1 := hpt'.trans hft
    exact (hc.end_succ hp').2 (hpt' ▸ ⟨q, hq, Int.le_add_one hq1, Int.le_of_lt_add_one (hqt ▸ hlt)⟩)

/-- one row of the stream `S`: `c10_step` keeps the base invariant, and `c10s_next_row` tells which case of
    `add_interaction` the call that `replayRow` makes falls in -/
theorem c10s_step {d : Bool} {g : Graph} {S P post : List Ev} {r : Ev} {tl : List Span}
    (inv : c10s_Inv d g P) (hS : S = P ++ r :: post) (hwf : c10_wellFormed d S) (hnr : NoRep d S)
    (hk : KeyInv d r.u r.v tl S) (hc : Canon tl) :
    ∃ H, g.replayRow r = (H, none) ∧ c10s_Inv d H (P ++ [r]) := by
  have hwf' : c10_wellFormed d (P ++ [r]) :=
    c10_wellFormed_prefix (L2 := post) (List.append_cons P r post ▸ hS ▸ hwf)
  obtain ⟨H, hrow, invH⟩ := c10_step inv.base r hwf'
  obtain rfl : (g.replayRow r).1 = H := congrArg Prod.fst hrow
  refine ⟨_, hrow, invH, ?_, invH.head hwf'⟩
  have hgwf := inv.base.wf
  have hr := inv.base.removal
  have hd := inv.base.directed
  subst hd
  -- the row is not in the log yet, so recording it appends it
  have hev' : addEv g.directed g.events r.t r.u r.v r.plus = P ++ [r] := by
    rw [inv.events, addEv_fresh (c10s_fresh hnr hS)]
  cases hf : g.findEdge r.u r.v with
  | none =>
    cases hp : r.plus with
    | false => rw [replayRow_minus_none hp hf] at hrow; cases hrow
    | true =>
      simp only [replayRow_plus hp, addInteraction_new hr (e := none) rfl hf, addNew_eq]
      exact hp ▸ hev'
  | some ed =>
    obtain ⟨hne, hcan⟩ := hgwf.tl ed (findEdge_some hf).1
    obtain ⟨⟨a, b⟩, rest, htl⟩ := List.exists_cons_of_ne_nil hne
    rw [htl] at hcan
    have hab : ¬ b < a := Int.not_lt.mpr hcan.head_le
    obtain ⟨hbpres, hbmax⟩ := hgwf.head_end hr hf htl
    obtain ⟨hplus, hminus⟩ := c10s_next_row hk hc hwf.1 hnr hS ((inv.base.presence _ _ _).mp hbpres)
      fun y hy => hbmax y ((inv.base.presence _ _ _).mpr hy)
    cases hp : r.plus with
    | true =>
      have hgap := hplus hp
      have hbt : b < r.t := Int.lt_trans (Int.lt_succ b) hgap
      simp only [replayRow_plus hp, addAppend_eq, addInteraction_append hr (t0 := r.t) (e := none) rfl hf htl
        (fun h => hab (Int.lt_trans hbt h)) (Int.not_le.mpr hbt) (Int.not_le.mpr hgap)]
      exact hp ▸ hev'
    | false =>
      obtain ⟨hbt, hnomark⟩ := hminus hp
      have hs : spanEnd b (some r.t) = some (r.t - 1) := if_neg (Int.not_le.mpr hbt)
      rw [replayRow_minus_some hp hf htl, if_pos hbt]
      by_cases hcov : r.t - 1 ≤ b
      · rw [addInteraction_covered hr hs hf htl hab hcov, addCovered_eq,
          if_pos (Int.le_antisymm hcov (Int.le_sub_one_of_lt hbt))]
        rw [hp] at hev'
        exact hev'
      · have hnodrop : dropEv g.directed g.events (b + 1) r.u r.v false = g.events :=
          dropEv_none fun f hf h =>
            hnomark (Int.add_lt_of_lt_sub_right (Int.not_le.mp hcov)) ⟨f, inv.events ▸ hf, h⟩
        simp only [addInteraction_extend hr hs hf htl hab hcov (Int.le_add_one (Int.le_refl b)),
          addExtend_eq, hnodrop]
        exact hp ▸ hev'

/-- the stream of any graph is already sorted, so sorting it again changes nothing -/
theorem c10s_Inv.stream {d : Bool} {g H : Graph} (inv : c10s_Inv d H g.stream) : H.stream = g.stream := by
  show H.events.mergeSort _ = g.stream
  rw [inv.events]
  exact stream_mergeSort g

theorem c10_reread {g : Graph} {d : Bool} (hwf : WF g) (hd : g.directed = d) (hev : EvInv g) :
    ∃ H, parseInteractions d g.genInteractions = (H, none) ∧ c10s_Inv d H g.stream := by
  subst hd
  exact replayRows_sim (I := c10s_Inv g.directed) (S := g.stream)
    (fun _ _ r _ hS inv => c10s_step inv hS (c10_stream_wellFormed hwf rfl hev) (stream_noRep hev.nodup)
      (c10_keyInv_stream hwf hev r.u r.v) (hwf.canon_tlOf r.u r.v))
    g.stream [] (Graph.empty g.directed true) rfl ⟨c10_Inv_empty g.directed, rfl, fun _ h => nomatch h⟩

/-- the stream clause for any graph with `WF` and `EvInv` (`_hr` is not used; no closedness hypothesis) -/
theorem c10s_reread_of_inv {g : Graph} (hwf : WF g) (_hr : g.removal = true) (hev : EvInv g) :
    ∃ H, parseInteractions g.directed g.genInteractions = (H, none) ∧
      H.events = g.stream ∧ H.stream = g.stream := by
  obtain ⟨H, hH, inv⟩ := c10_reread hwf rfl hev
  exact ⟨H, hH, inv.events, inv.stream⟩

/-- **C10, writer**: for every history the written rows are a well-formed log, so the reader accepts
    them without exception (closed runs or not) -/
theorem C10_written_wellFormed (d : Bool) (ops : List Op) :
    let g := ((Graph.empty d true).run ops).1
    c10_wellFormed d g.genInteractions ∧ ∃ H, parseInteractions d g.genInteractions = (H, none) := by
  obtain ⟨hwf, _, hd, hev⟩ := C05_reached d ops
  obtain ⟨H, hH, _⟩ := c10_reread hwf hd hev
  exact ⟨c10_stream_wellFormed hwf hd hev, H, hH⟩

/-- **C10, round trip**: the hypothesis of `C10_roundtrip_partial` is necessary -/
theorem C10_roundtrip_iff_closed (d : Bool) (ops : List Op) :
    let g := ((Graph.empty d true).run ops).1
    (∀ a b x, c10_spec d g.genInteractions a b x ↔ g.hasInteraction a b (some x) = true) ↔
    (∀ ed ∈ g.edges, ∀ s ∈ ed.tl, s.1 < s.2 →
      ∃ ev ∈ g.stream, ev.plus = false ∧ ev.t = s.2 + 1 ∧ sameKey d ed.u ed.v ev.u ev.v = true) := by
  obtain ⟨hwf, hr, hd, hev⟩ := C05_reached d ops
  exact c10_stream_spec_iff_closed hwf hr hd hev

/-- **C10, round trip** (partial: the hypothesis `hclosed`, every stored run of two or more instants has its closing
    `'-'` entry, excludes the known finding D5, see `C10_D5_witness`): the rows written by `generate_interactions` form a
    well-formed log, the log means the graph's presence, and `parse_interactions` reads it back without exception into a
    graph with the same presence. -/
theorem C10_roundtrip_partial (d : Bool) (ops : List Op) :
    let g := ((Graph.empty d true).run ops).1
    (∀ ed ∈ g.edges, ∀ s ∈ ed.tl, s.1 < s.2 →
      ∃ ev ∈ g.stream, ev.plus = false ∧ ev.t = s.2 + 1 ∧ sameKey d ed.u ed.v ev.u ev.v = true) →
    c10_wellFormed d g.genInteractions ∧
    (∀ a b x, c10_spec d g.genInteractions a b x ↔ g.hasInteraction a b (some x) = true) ∧
    ∃ H, parseInteractions d g.genInteractions = (H, none) ∧ WF H ∧ H.directed = d ∧
      ∀ a b x, H.hasInteraction a b (some x) = g.hasInteraction a b (some x) := by
  intro g hclosed
  obtain ⟨hwf, hr, hd, hev⟩ := C05_reached d ops
  have h2 := (c10_stream_spec_iff_closed hwf hr hd hev).mpr hclosed
  obtain ⟨H, hH, inv⟩ := c10_reread hwf hd hev
  exact ⟨c10_stream_wellFormed hwf hd hev, h2, H, hH, inv.base.wf, inv.base.directed,
    fun a b x => Bool.eq_iff_iff.mpr ((inv.base.presence a b x).trans (h2 a b x))⟩

/-- the known finding D5 on the round trip: after `add(1,2,18)`, `add(1,2,19)` the pair is present at
    18 and 19, the written log is the single row `+ 1 2 18`, and reading it back gives presence at 18
    only -/
theorem C10_D5_witness :
    let g := ((Graph.empty false true).run [Op.add 1 2 (some 18) none, Op.add 1 2 (some 19) none]).1
    g.genInteractions = [⟨18, 1, 2, true⟩] ∧
    g.hasInteraction 1 2 (some 19) = true ∧
    (parseInteractions false [⟨18, 1, 2, true⟩]).2 = none ∧
    (parseInteractions false [⟨18, 1, 2, true⟩]).1.timeline 1 2 = some [(18, 18)] ∧
    (parseInteractions false [⟨18, 1, 2, true⟩]).1.hasInteraction 1 2 (some 18) = true ∧
    (parseInteractions false [⟨18, 1, 2, true⟩]).1.hasInteraction 1 2 (some 19) = false := by
  intro g
  refine ⟨C05_D5_witness_stream.1, C05_D5_witness.2.2.2.1, ?_⟩
  decide

/-- **C10, stream clause, no hypothesis**: for every history, reading back the written rows raises nothing and gives a
    graph whose stream is, as a list, the stream of the written graph (same events, same order, same stored orientation). -/
theorem C10_stream_reread (d : Bool) (ops : List Op) :
    let g := ((Graph.empty d true).run ops).1
    ∃ H, parseInteractions d g.genInteractions = (H, none) ∧
      H.events = g.stream ∧ H.stream = g.stream := by
  obtain ⟨hwf, _, hd, hev⟩ := C05_reached d ops
  obtain ⟨H, hH, inv⟩ := c10_reread hwf hd hev
  exact ⟨H, hH, inv.events, inv.stream⟩

theorem c10s_reread_stream (d : Bool) (ops : List Op) :
    (parseInteractions d ((Graph.empty d true).run ops).1.genInteractions).1.stream =
      ((Graph.empty d true).run ops).1.stream := by
  obtain ⟨_, hH, -, h⟩ := C10_stream_reread d ops
  exact hH ▸ h

/-- **C10, stream clause and presence together**, under the closedness hypothesis of `C10_roundtrip_partial` (which is not
    used for the stream: see `C10_stream_reread`) -/
theorem C10_stream_reread_partial (d : Bool) (ops : List Op) :
    let g := ((Graph.empty d true).run ops).1
    (∀ ed ∈ g.edges, ∀ s ∈ ed.tl, s.1 < s.2 →
      ∃ ev ∈ g.stream, ev.plus = false ∧ ev.t = s.2 + 1 ∧ sameKey d ed.u ed.v ev.u ev.v = true) →
    (parseInteractions d g.genInteractions).2 = none ∧
    (parseInteractions d g.genInteractions).1.stream = g.stream ∧
    (∀ a b x, (parseInteractions d g.genInteractions).1.hasInteraction a b (some x) =
      g.hasInteraction a b (some x)) := by
  intro g hclosed
  obtain ⟨_, _, H, hH, _, _, hpres⟩ := C10_roundtrip_partial d ops hclosed
  exact ⟨congrArg Prod.snd hH, c10s_reread_stream d ops, hH ▸ hpres⟩

/-- a concrete stream: the event log by `decide`, the sort of that literal list apart (see `C18_example_sorted`) -/
theorem c10s_stream_of_events {g : Graph} {E L : List Ev} (h : g.events = E)
    (hs : E.mergeSort (fun a b => decide (a.t ≤ b.t)) = L) : g.stream = L := by
  unfold Graph.stream; rw [h]; exact hs

/-- the known finding D5 does NOT touch the stream clause: the graph re-read in `C10_D5_witness` has the written stream,
    the single row `+ 1 2 18` (while its presence differs at 19) -/
theorem C10_stream_reread_D5_witness :
    let g := ((Graph.empty false true).run [Op.add 1 2 (some 18) none, Op.add 1 2 (some 19) none]).1
    let H := (parseInteractions false g.genInteractions).1
    g.stream = [⟨18, 1, 2, true⟩] ∧ H.stream = [⟨18, 1, 2, true⟩] ∧ H.stream = g.stream ∧
    g.hasInteraction 1 2 (some 19) = true ∧ H.hasInteraction 1 2 (some 19) = false := by
  intro g H
  have hst : g.stream = [⟨18, 1, 2, true⟩] := C05_D5_witness_stream.1
  refine ⟨hst, (c10s_reread_stream false _).trans hst, c10s_reread_stream false _, C05_D5_witness.2.2.2.1, ?_⟩
  show (parseInteractions false g.stream).1.hasInteraction 1 2 (some 19) = false
  rw [hst]
  exact C10_D5_witness.2.2.2.2.2

/-- undirected graph, both endpoint orders, several pairs at one instant, a re-add after a gap: the
    re-read stream keeps the stored orientation of every event (`(2,1,'+')@12` stays `(2,1)` although
    the pair was first stored as `(1,2)`) and the insertion order inside an instant -/
theorem C10_stream_reread_orientation_witness :
    let g := ((Graph.empty false true).run
      [Op.add 1 2 (some 5) (some 8), Op.add 2 1 (some 12) none, Op.add 3 4 (some 5) none,
       Op.add 4 3 (some 9) (some 11), Op.add 1 2 (some 12) (some 15)]).1
    let H := (parseInteractions false g.genInteractions).1
    g.stream = [⟨5, 1, 2, true⟩, ⟨5, 3, 4, true⟩, ⟨8, 1, 2, false⟩, ⟨9, 4, 3, true⟩, ⟨11, 4, 3, false⟩,
      ⟨12, 2, 1, true⟩, ⟨15, 1, 2, false⟩] ∧ H.stream = g.stream := by
  intro g H
  have hev : g.events = [⟨5, 1, 2, true⟩, ⟨8, 1, 2, false⟩, ⟨12, 2, 1, true⟩, ⟨5, 3, 4, true⟩,
      ⟨9, 4, 3, true⟩, ⟨11, 4, 3, false⟩, ⟨15, 1, 2, false⟩] := by decide
  have hst : g.stream = [⟨5, 1, 2, true⟩, ⟨5, 3, 4, true⟩, ⟨8, 1, 2, false⟩, ⟨9, 4, 3, true⟩,
      ⟨11, 4, 3, false⟩, ⟨12, 2, 1, true⟩, ⟨15, 1, 2, false⟩] :=
    c10s_stream_of_events hev (by simp [List.mergeSort, List.MergeSort.Internal.splitInTwo])
  exact ⟨hst, c10s_reread_stream false _⟩

/-- the history of the two examples below: an interval add `[5,7]`, an interval add that extends the run to
    `[5,9]`, a re-add after a gap at 12 (other endpoint order) closed at 15, and a second pair -/
theorem c10s_demo :
    let g := ((Graph.empty false true).run
      [Op.add 1 2 (some 5) (some 8), Op.add 1 2 (some 8) (some 10), Op.add 3 4 (some 5) none,
       Op.add 2 1 (some 12) (some 15)]).1
    g.edges = [⟨1, 2, [(12, 14), (5, 9)]⟩, ⟨3, 4, [(5, 5)]⟩] ∧
    g.stream = [⟨5, 1, 2, true⟩, ⟨5, 3, 4, true⟩, ⟨10, 1, 2, false⟩, ⟨12, 2, 1, true⟩, ⟨15, 2, 1, false⟩] := by
  intro g
  have hev : g.events = [⟨5, 1, 2, true⟩, ⟨10, 1, 2, false⟩, ⟨5, 3, 4, true⟩, ⟨12, 2, 1, true⟩,
      ⟨15, 2, 1, false⟩] := by decide
  exact ⟨by decide, c10s_stream_of_events hev (by simp [List.mergeSort, List.MergeSort.Internal.splitInTwo])⟩

/-- `hclosed` of `C10_stream_reread_partial` holds for the history of `c10s_demo`, and the conclusion is checked directly
    on the concrete graphs -/
example :
    let g := ((Graph.empty false true).run
      [Op.add 1 2 (some 5) (some 8), Op.add 1 2 (some 8) (some 10), Op.add 3 4 (some 5) none,
       Op.add 2 1 (some 12) (some 15)]).1
    (∀ ed ∈ g.edges, ∀ s ∈ ed.tl, s.1 < s.2 →
      ∃ ev ∈ g.stream, ev.plus = false ∧ ev.t = s.2 + 1 ∧ sameKey false ed.u ed.v ev.u ev.v = true) ∧
    g.timeline 1 2 = some [(5, 9), (12, 14)] ∧
    g.stream = [⟨5, 1, 2, true⟩, ⟨5, 3, 4, true⟩, ⟨10, 1, 2, false⟩, ⟨12, 2, 1, true⟩, ⟨15, 2, 1, false⟩] ∧
    (parseInteractions false g.genInteractions).2 = none ∧
    (parseInteractions false g.genInteractions).1.stream = g.stream ∧
    (parseInteractions false g.genInteractions).1.timeline 1 2 = some [(5, 9), (12, 14)] := by
  intro g
  have hedges : g.edges = _ := c10s_demo.1
  have hst : g.stream = _ := c10s_demo.2
  have hgen : g.genInteractions = _ := hst
  refine ⟨?_, by decide, hst, ?_, ?_, ?_⟩
  · rw [hedges, hst]; decide
  · rw [hgen]; decide
  · rw [hgen, hst]
    exact c10s_stream_of_events (by decide) (List.mergeSort_of_pairwise (by decide))
  · rw [hgen]; decide

/-- the same history through the theorem -/
example :
    let g := ((Graph.empty false true).run
      [Op.add 1 2 (some 5) (some 8), Op.add 1 2 (some 8) (some 10), Op.add 3 4 (some 5) none,
       Op.add 2 1 (some 12) (some 15)]).1
    (parseInteractions false g.genInteractions).1.stream = g.stream := by
  intro g
  refine (C10_stream_reread_partial false _ ?_).2.1
  show ∀ ed ∈ g.edges, ∀ s ∈ ed.tl, s.1 < s.2 →
      ∃ ev ∈ g.stream, ev.plus = false ∧ ev.t = s.2 + 1 ∧ sameKey false ed.u ed.v ev.u ev.v = true
  rw [show g.edges = _ from c10s_demo.1, show g.stream = _ from c10s_demo.2]; decide

end Dynetx
