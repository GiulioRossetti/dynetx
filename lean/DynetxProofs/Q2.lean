import DynetxProofs.Q1
/-
  C02: the query layer — interaction lists (`interactions`, `out_interactions`, `in_interactions`),
  `size`, `density`, `degree_histogram`, `non_interactions`.
-/
namespace Dynetx

/-- the fields of `NodeInv` (Q1); the theorems of this file take the invariant in this form (`NodeInv.q2` converts) -/
structure q2_NodeInv (g : Graph) : Prop where
  endpoints : ∀ e ∈ g.edges, g.hasNodeFlat e.u = true ∧ g.hasNodeFlat e.v = true
  nodup : (g.nodes.map (·.1)).Nodup

theorem NodeInv.q2 {g : Graph} (hn : NodeInv g) : q2_NodeInv g := ⟨hn.endpoints, hn.nodup⟩

theorem q2_nodeList_nodup {g : Graph} (hn : q2_NodeInv g) : g.nodeList.Nodup := hn.nodup

theorem q2_has_node {g : Graph} (hn : q2_NodeInv g) {u v : Node} {t : Option Int}
    (hh : g.hasInteraction u v t = true) : u ∈ g.nodeList ∧ v ∈ g.nodeList := by
  simpa only [q1_hasNodeFlat_iff] using q1_node_of_flat hn.endpoints hh

theorem q2_nodup_flatMap {α β γ : Type} {l : List α} (hl : l.Nodup) (f : α → List β) (hf : ∀ n, (f n).Nodup)
    (k : α → β → γ) (hk : ∀ a b a' b', k a b = k a' b' → a = a' ∧ b = b') :
    (l.flatMap (fun n => (f n).map (k n))).Nodup := by
  rw [List.Nodup, List.pairwise_flatMap]
  refine ⟨fun a _ => ?_, hl.imp ?_⟩
  · rw [List.pairwise_map]
    exact (hf a).imp fun hxy hc => hxy (hk _ _ _ _ hc).2
  · intro a b hab x hx y hy hxy
    obtain ⟨m, _, rfl⟩ := List.mem_map.mp hx
    obtain ⟨m', _, rfl⟩ := List.mem_map.mp hy
    exact hab (hk _ _ _ _ hxy).1

theorem q2_nbunch_nodup {g : Graph} (hn : q2_NodeInv g) (nb : Option (List Node))
    (hl : ∀ l, nb = some l → l.Nodup) : (g.nbunch nb).Nodup := by
  cases nb with
  | none => exact hn.nodup
  | some l => exact (hl l rfl).filter _

theorem q2_mem_nbunch_some (g : Graph) (l : List Node) (n : Node) :
    n ∈ g.nbunch (some l) ↔ n ∈ l ∧ n ∈ g.nodeList := by
  simp only [Graph.nbunch, List.mem_filter, q1_hasNodeFlat_iff]

/-- `out_interactions_iter` unfolded to the adjacency row and the `present` filter; `q2_mem_out` is the same in terms
    of presence -/
theorem C02_outInteractions (g : Graph) (nb : Option (List Node)) (t : Option Int) (u v : Node) :
    (u, v) ∈ g.outInteractions nb t ↔ (u ∈ g.nbunch nb ∧ v ∈ g.succs u ∧ g.present u v t = true) := by
  simp [Graph.outInteractions, Graph.neighbors]

/-- likewise for `in_interactions_iter` (presence form: `q2_mem_in`) -/
theorem C02_inInteractions (g : Graph) (nb : Option (List Node)) (t : Option Int) (u v : Node) :
    (u, v) ∈ g.inInteractions nb t ↔ (v ∈ g.nbunch nb ∧ u ∈ g.preds v ∧ g.present u v t = true) := by
  simp only [Graph.inInteractions, Graph.predecessors, List.mem_flatMap, List.mem_map, List.mem_filter,
    Prod.mk.injEq]
  constructor
  · rintro ⟨a, ha, b, hb, rfl, rfl⟩; exact ⟨ha, hb⟩
  · rintro ⟨ha, hb⟩; exact ⟨v, ha, u, hb, rfl, rfl⟩

theorem q2_mem_out (g : Graph) (nb : Option (List Node)) (t : Option Int) (u v : Node) :
    (u, v) ∈ g.outInteractions nb t ↔ (u ∈ g.nbunch nb ∧ g.hasInteraction u v t = true) := by
  rw [C02_outInteractions, q1_row_present]

theorem q2_mem_in {g : Graph} (hd : g.directed = true) (nb : Option (List Node)) (t : Option Int) (u v : Node) :
    (u, v) ∈ g.inInteractions nb t ↔ (v ∈ g.nbunch nb ∧ g.hasInteraction u v t = true) := by
  rw [C02_inInteractions, q1_preds_iff_flat g hd, ← q1_succs_iff_flat, q1_row_present]

theorem q2_out_nodup {g : Graph} (hk : q1_Keys g) (nb : Option (List Node)) (hnb : (g.nbunch nb).Nodup)
    (t : Option Int) : (g.outInteractions nb t).Nodup :=
  q2_nodup_flatMap hnb _ (fun n => q1_neighbors_nodup hk n t) Prod.mk
    fun _ _ _ _ h => Prod.mk.inj h

theorem q2_in_nodup {g : Graph} (hk : q1_Keys g) (nb : Option (List Node)) (hnb : (g.nbunch nb).Nodup)
    (t : Option Int) : (g.inInteractions nb t).Nodup :=
  q2_nodup_flatMap hnb _ (fun n => q1_predecessors_nodup hk n t) (fun n m => (m, n))
    fun _ _ _ _ h => (Prod.mk.inj h).symm

/-- no class is assumed: on an undirected graph presence is symmetric, so both orientations of a pair are listed
    (`q2_degreeSum_undirected_loops` uses that) -/
theorem C02_outInteractions_directed {g : Graph} (hn : q2_NodeInv g) (t : Option Int) (u v : Node) :
    (u, v) ∈ g.outInteractions none t ↔ g.hasInteraction u v t = true := by
  rw [q2_mem_out]
  exact and_iff_right_of_imp fun hh => (q2_has_node hn hh).1

theorem C02_outInteractions_nodup {g : Graph} (h : WF g) (hn : q2_NodeInv g) (t : Option Int) :
    (g.outInteractions none t).Nodup :=
  q2_out_nodup h.keys none hn.nodup t

theorem C02_inInteractions_directed {g : Graph} (hn : q2_NodeInv g) (hd : g.directed = true)
    (t : Option Int) (u v : Node) :
    (u, v) ∈ g.inInteractions none t ↔ g.hasInteraction u v t = true := by
  rw [q2_mem_in hd]
  exact and_iff_right_of_imp fun hh => (q2_has_node hn hh).2

theorem C02_inInteractions_nodup {g : Graph} (h : WF g) (hn : q2_NodeInv g) (t : Option Int) :
    (g.inInteractions none t).Nodup :=
  q2_in_nodup h.keys none hn.nodup t

/-- `nbunch` given: members of `l` that are not nodes contribute nothing, so no node test is visible -/
theorem C02_outInteractions_nbunch {g : Graph} (hn : q2_NodeInv g) (l : List Node)
    (t : Option Int) (u v : Node) :
    (u, v) ∈ g.outInteractions (some l) t ↔ (u ∈ l ∧ g.hasInteraction u v t = true) := by
  rw [q2_mem_out, q2_mem_nbunch_some]
  exact ⟨fun hh => ⟨hh.1.1, hh.2⟩, fun hh => ⟨⟨hh.1, (q2_has_node hn hh.2).1⟩, hh.2⟩⟩

theorem C02_outInteractions_nbunch_nodup {g : Graph} (h : WF g) (l : List Node) (hl : l.Nodup)
    (t : Option Int) : (g.outInteractions (some l) t).Nodup :=
  q2_out_nodup h.keys (some l) (hl.filter _) t

theorem C02_inInteractions_nbunch {g : Graph} (hn : q2_NodeInv g) (hd : g.directed = true) (l : List Node)
    (t : Option Int) (u v : Node) :
    (u, v) ∈ g.inInteractions (some l) t ↔ (v ∈ l ∧ g.hasInteraction u v t = true) := by
  rw [q2_mem_in hd, q2_mem_nbunch_some]
  exact ⟨fun hh => ⟨hh.1.1, hh.2⟩, fun hh => ⟨⟨hh.1, (q2_has_node hn hh.2).2⟩, hh.2⟩⟩

theorem C02_inInteractions_nbunch_nodup {g : Graph} (h : WF g) (l : List Node) (hl : l.Nodup)
    (t : Option Int) : (g.inInteractions (some l) t).Nodup :=
  q2_in_nodup h.keys (some l) (hl.filter _) t

theorem q2_mem_row {n u v : Node} {l : List Node} : (u, v) ∈ l.map (fun m => (n, m)) ↔ u = n ∧ v ∈ l := by
  rw [List.mem_map]
  exact ⟨by rintro ⟨m, h, ⟨⟩⟩; exact ⟨rfl, h⟩, by rintro ⟨rfl, h⟩; exact ⟨v, h, rfl⟩⟩

theorem q2_go_cons (g : Graph) (t : Option Int) (n : Node) (rest seen : List Node) (u v : Node) :
    (u, v) ∈ g.interactionsGo t (n :: rest) seen ↔
      (u = n ∧ g.hasInteraction u v t = true ∧ v ∉ seen) ∨ (u, v) ∈ g.interactionsGo t rest (n :: seen) := by
  rw [Graph.interactionsGo, List.mem_append, q2_mem_row, List.mem_filter]
  refine or_congr (and_congr_right fun hu => ?_) Iff.rfl
  simp only [hu, ← q1_row_present, Bool.and_eq_true, Bool.not_eq_true', List.contains_eq_mem,
    decide_eq_false_iff_not]
  exact ⟨fun h => ⟨⟨h.1, h.2.2⟩, h.2.1⟩, fun h => ⟨h.1.1, h.2, h.1.2⟩⟩

theorem q2_idxOf_cons (n u : Node) (l : List Node) :
    (n :: l).idxOf u = if u = n then 0 else l.idxOf u + 1 := by
  simp only [List.idxOf_cons, Bool.cond_eq_ite, beq_iff_eq, @eq_comm _ n]

/-- what `interactions_iter` yields, `seen` being the set the iteration starts with: `u` is iterated, first no later
    than `v` (`idxOf` is the length of the list for a node that is not iterated) -/
theorem q2_go_iff (g : Graph) (t : Option Int) (ns seen : List Node) (u v : Node) :
    (u, v) ∈ g.interactionsGo t ns seen ↔
      g.hasInteraction u v t = true ∧ v ∉ seen ∧ u ∈ ns ∧ ns.idxOf u ≤ ns.idxOf v := by
  induction ns generalizing seen with
  | nil => exact iff_of_false List.not_mem_nil fun h => List.not_mem_nil h.2.2.1
  | cons n rest ih =>
    rw [q2_go_cons, ih, List.mem_cons, not_or, List.mem_cons, q2_idxOf_cons, q2_idxOf_cons]
    -- `n` stands at 0, every other node one later than in `rest`
    by_cases hu : u = n
    · rw [if_pos hu]
      exact ⟨fun h => h.elim (fun h => ⟨h.2.1, h.2.2, Or.inl hu, Nat.zero_le _⟩)
        fun h => ⟨h.1, h.2.1.2, Or.inl hu, Nat.zero_le _⟩, fun h => Or.inl ⟨hu, h.1, h.2.1⟩⟩
    · rw [if_neg hu]
      by_cases hv : v = n
      · rw [if_pos hv]
        exact ⟨fun h => h.elim (fun h => absurd h.1 hu) fun h => absurd hv h.2.1.1,
          fun h => absurd h.2.2.2 (Nat.not_succ_le_zero _)⟩
      · rw [if_neg hv, Nat.succ_le_succ_iff]
        simp only [hu, hv, false_and, false_or, not_false_eq_true, true_and]

theorem q2_go_mem {g : Graph} {t : Option Int} {ns seen : List Node} {u v : Node}
    (hm : (u, v) ∈ g.interactionsGo t ns seen) : u ∈ ns ∧ g.hasInteraction u v t = true ∧ v ∉ seen :=
  have h := (q2_go_iff g t ns seen u v).mp hm
  ⟨h.2.2.1, h.1, h.2.1⟩

/-- never both orientations of a pair of distinct nodes: they would stand at the same position -/
theorem q2_go_antisymm {g : Graph} {t : Option Int} {ns seen : List Node} {u v : Node}
    (h1 : (u, v) ∈ g.interactionsGo t ns seen) (h2 : (v, u) ∈ g.interactionsGo t ns seen) : u = v := by
  obtain ⟨_, _, hu, a⟩ := (q2_go_iff ..).mp h1
  obtain ⟨_, _, hv, b⟩ := (q2_go_iff ..).mp h2
  rw [← List.getElem_idxOf (List.idxOf_lt_length_iff.mpr hu),
    ← List.getElem_idxOf (List.idxOf_lt_length_iff.mpr hv)]
  simp only [Nat.le_antisymm a b]

/-- the pair is yielded from the end that comes first -/
theorem q2_go_complete {g : Graph} (hd : g.directed = false) (t : Option Int) (ns : List Node)
    (u v : Node) (hh : g.hasInteraction u v t = true) (hin : u ∈ ns ∨ v ∈ ns) :
    (u, v) ∈ g.interactionsGo t ns [] ∨ (v, u) ∈ g.interactionsGo t ns [] := by
  have hh' := q1_has_symm g hd u v t ▸ hh
  have key : ∀ {a b : Node}, ns.idxOf a ≤ ns.idxOf b → b ∈ ns → a ∈ ns := fun h hb =>
    List.idxOf_lt_length_iff.mp (Nat.lt_of_le_of_lt h (List.idxOf_lt_length_iff.mpr hb))
  simp only [q2_go_iff, hh, hh', List.not_mem_nil, not_false_eq_true, true_and]
  rcases Nat.le_total (ns.idxOf u) (ns.idxOf v) with h | h
  · exact Or.inl ⟨hin.elim id (key h), h⟩
  · exact Or.inr ⟨hin.elim (key h) id, h⟩

theorem q2_pairwise_row {n : Node} {row : List Node} {tail : List (Node × Node)} (hrow : row.Nodup)
    (htail : tail.Pairwise (fun p q => ¬ (sameKey false p.1 p.2 q.1 q.2 = true)))
    (hn : ∀ q ∈ tail, q.1 ≠ n ∧ q.2 ≠ n) :
    (row.map (fun m => (n, m)) ++ tail).Pairwise (fun p q => ¬ (sameKey false p.1 p.2 q.1 q.2 = true)) := by
  rw [List.pairwise_append, List.pairwise_map]
  refine ⟨hrow.imp ?_, htail, ?_⟩
  · intro a b hab hk
    rcases (sameKey_iff ..).mp hk with ⟨_, h⟩ | ⟨_, h1, h2⟩
    · exact hab h
    · exact hab (h1.trans h2)
  · intro p hp q hq hk
    obtain ⟨m, _, rfl⟩ := List.mem_map.mp hp
    rcases (sameKey_iff ..).mp hk with ⟨h, _⟩ | ⟨_, _, h⟩
    · exact (hn q hq).1 h.symm
    · exact (hn q hq).2 h.symm

theorem q2_go_pairwise {g : Graph} (hk : q1_Keys g) (t : Option Int) (ns seen : List Node) (hns : ns.Nodup) :
    (g.interactionsGo t ns seen).Pairwise (fun p q => ¬ (sameKey false p.1 p.2 q.1 q.2 = true)) := by
  induction ns generalizing seen with
  | nil => exact List.Pairwise.nil
  | cons n rest ih =>
    rw [List.nodup_cons] at hns
    refine q2_pairwise_row ((q1_succs_nodup_of_keys hk n).filter _) (ih (n :: seen) hns.2) ?_
    rintro ⟨a, b⟩ hq
    obtain ⟨ha, _, hb⟩ := q2_go_mem hq
    exact ⟨fun hc => hns.1 (hc ▸ ha), fun hc => hb (hc ▸ List.mem_cons_self)⟩

theorem C02_interactions_mem (g : Graph) (t : Option Int) (u v : Node)
    (hm : (u, v) ∈ g.interactions none t) : g.hasInteraction u v t = true :=
  (q2_go_mem hm).2.1

theorem C02_interactions_complete {g : Graph} (hn : q2_NodeInv g) (hd : g.directed = false)
    (t : Option Int) (u v : Node) (hh : g.hasInteraction u v t = true) :
    (u, v) ∈ g.interactions none t ∨ (v, u) ∈ g.interactions none t :=
  q2_go_complete hd t _ u v hh (Or.inl (q2_has_node hn hh).1)

theorem q2_interactions_once {g : Graph} (hk : q1_Keys g) (nb : Option (List Node)) (hnb : (g.nbunch nb).Nodup)
    (t : Option Int) :
    (g.interactions nb t).Pairwise (fun p q => ¬ (sameKey false p.1 p.2 q.1 q.2 = true)) :=
  q2_go_pairwise hk t _ [] hnb

/-- each present unordered pair is listed once: no duplicates, never both orientations -/
theorem C02_interactions_once {g : Graph} (h : WF g) (hn : q2_NodeInv g) (t : Option Int) :
    (g.interactions none t).Pairwise (fun p q => ¬ (sameKey false p.1 p.2 q.1 q.2 = true)) :=
  q2_interactions_once h.keys none hn.nodup t

theorem q2_nodup_of_pairwise_key {l : List (Node × Node)}
    (hp : l.Pairwise (fun p q => ¬ (sameKey false p.1 p.2 q.1 q.2 = true))) : l.Nodup := by
  refine hp.imp ?_
  rintro a _ hab rfl
  exact hab (sameKey_refl _ _ _)

theorem C02_interactions_nodup {g : Graph} (h : WF g) (hn : q2_NodeInv g) (t : Option Int) :
    (g.interactions none t).Nodup :=
  q2_nodup_of_pairwise_key (C02_interactions_once h hn t)

theorem C02_interactions_iff {g : Graph} (hn : q2_NodeInv g) (hd : g.directed = false)
    (t : Option Int) (u v : Node) :
    g.hasInteraction u v t = true ↔ ((u, v) ∈ g.interactions none t ∨ (v, u) ∈ g.interactions none t) :=
  ⟨C02_interactions_complete hn hd t u v, fun h => h.elim (C02_interactions_mem g t u v)
    fun h1 => q1_has_symm g hd u v t ▸ C02_interactions_mem g t v u h1⟩

theorem C02_interactions_nbunch_mem (g : Graph) (l : List Node) (t : Option Int) (u v : Node)
    (hm : (u, v) ∈ g.interactions (some l) t) :
    g.hasInteraction u v t = true ∧ (u ∈ l ∨ v ∈ l) := by
  obtain ⟨h1, h2, _⟩ := q2_go_mem hm
  exact ⟨h2, Or.inl ((q2_mem_nbunch_some g l u).mp h1).1⟩

theorem C02_interactions_nbunch_complete {g : Graph} (hn : q2_NodeInv g) (hd : g.directed = false)
    (l : List Node) (t : Option Int) (u v : Node) (hh : g.hasInteraction u v t = true)
    (hin : u ∈ l ∨ v ∈ l) :
    (u, v) ∈ g.interactions (some l) t ∨ (v, u) ∈ g.interactions (some l) t := by
  refine q2_go_complete hd t _ u v hh ?_
  simp only [q2_mem_nbunch_some, q2_has_node hn hh, and_true]
  exact hin

theorem C02_interactions_nbunch_once {g : Graph} (h : WF g) (l : List Node) (hl : l.Nodup)
    (t : Option Int) :
    (g.interactions (some l) t).Pairwise (fun p q => ¬ (sameKey false p.1 p.2 q.1 q.2 = true)) :=
  q2_interactions_once h.keys (some l) (hl.filter _) t

/-- `v` is iterated strictly before (an occurrence of) `u` in the node order -/
def iteratedBefore (l : List Node) (v u : Node) : Prop := ∃ l1 l2, l = l1 ++ u :: l2 ∧ v ∈ l1

theorem q2_iteratedBefore_iff {l : List Node} (hl : l.Nodup) {u v : Node} (hu : u ∈ l) :
    iteratedBefore l v u ↔ l.idxOf v < l.idxOf u := by
  have key : ∀ l1 l2, l = l1 ++ u :: l2 → u ∉ l1 → (v ∈ l1 ↔ l.idxOf v < l.idxOf u) := by
    rintro l1 l2 rfl h1
    rw [List.idxOf_append, List.idxOf_append, if_neg h1, q2_idxOf_cons u u, if_pos rfl, Nat.zero_add]
    by_cases hv : v ∈ l1
    · rw [if_pos hv]; exact iff_of_true hv (List.idxOf_lt_length_iff.mpr hv)
    · rw [if_neg hv]; exact iff_of_false hv (Nat.not_lt.mpr (Nat.le_add_left ..))
  constructor
  · rintro ⟨l1, l2, rfl, hv⟩
    exact (key l1 l2 rfl fun h => (List.nodup_append.mp hl).2.2 u h u List.mem_cons_self rfl).mp hv
  · intro h
    obtain ⟨l1, l2, rfl, h1⟩ := List.eq_append_cons_of_mem hu
    exact ⟨l1, l2, rfl, (key l1 l2 rfl h1).mpr h⟩

/-- **C02 / D10**: the exact content of `interactions(t)`, both classes -/
theorem C02_interactions_exact {g : Graph} (hn : q2_NodeInv g) (t : Option Int) (u v : Node) :
    (u, v) ∈ g.interactions none t ↔
      g.hasInteraction u v t = true ∧ ¬ iteratedBefore g.nodeList v u := by
  rw [Graph.interactions, q2_go_iff]
  refine and_congr_right fun hh => ?_
  have hu := (q2_has_node hn hh).1
  rw [q2_iteratedBefore_iff (q2_nodeList_nodup hn) hu, Nat.not_lt]
  exact ⟨fun h => h.2.2, fun h => ⟨List.not_mem_nil, hu, h⟩⟩

/-- **D10, precise form.**  On a directed graph the arcs missing from `interactions(t)` are exactly the present arcs
    whose target is iterated before their source. -/
theorem C02_D10_dropped {g : Graph} (hn : q2_NodeInv g) (t : Option Int) (u v : Node)
    (hh : g.hasInteraction u v t = true) :
    (u, v) ∉ g.interactions none t ↔ iteratedBefore g.nodeList v u := by
  rw [C02_interactions_exact hn]
  constructor
  · intro h
    exact Classical.byContradiction fun hc => h ⟨hh, hc⟩
  · intro h hc
    exact hc.2 h

theorem q2_degreeSum_eq (g : Graph) (t : Option Int) :
    g.degreeSum t = (g.nodeList.map (fun n => g.degree n t)).sum := by
  unfold Graph.degreeSum
  rw [List.sum_eq_foldl_nat]

theorem q2_length_out (g : Graph) (nb : Option (List Node)) (t : Option Int) :
    (g.outInteractions nb t).length = ((g.nbunch nb).map (fun n => g.outDegree n t)).sum := by
  simp [Graph.outInteractions, Graph.outDegree]

theorem q2_length_in (g : Graph) (nb : Option (List Node)) (t : Option Int) :
    (g.inInteractions nb t).length = ((g.nbunch nb).map (fun n => g.inDegree n t)).sum := by
  simp [Graph.inInteractions, Graph.inDegree]

/-- directed: every arc is counted once as an out-arc and once as an in-arc -/
theorem q2_degreeSum_directed {g : Graph} (hk : q1_Keys g) (hn : q2_NodeInv g) (hd : g.directed = true)
    (t : Option Int) : g.degreeSum t = 2 * (g.outInteractions none t).length := by
  have h1 : g.degreeSum t = (g.outInteractions none t).length + (g.inInteractions none t).length := by
    rw [q2_degreeSum_eq, q2_length_out, q2_length_in, ← sum_map_add]
    simp only [Graph.degree, hd, if_true, Graph.nbunch]
  rw [h1, Nat.two_mul, length_eq_of_nodup (q2_in_nodup hk none hn.nodup t)
    (q2_out_nodup hk none hn.nodup t)
    fun p => by rw [C02_inInteractions_directed hn hd, C02_outInteractions_directed hn]]

theorem q2_size_directed {g : Graph} (hk : q1_Keys g) (hn : q2_NodeInv g) (hd : g.directed = true)
    (t : Option Int) : g.size t = (g.outInteractions none t).length := by
  rw [Graph.size, q2_degreeSum_directed hk hn hd, Nat.mul_div_cancel_left _ Nat.two_pos]

theorem C02_size_directed {g : Graph} (h : WF g) (hn : q2_NodeInv g) (hd : g.directed = true)
    (t : Option Int) : g.size t = (g.outInteractions none t).length :=
  q2_size_directed h.keys hn hd t

theorem q2_mem_swap (l : List (Node × Node)) (u v : Node) :
    (u, v) ∈ l.map (fun p => (p.2, p.1)) ↔ (v, u) ∈ l := by
  rw [List.mem_map]
  exact ⟨by rintro ⟨⟨a, b⟩, hab, ⟨⟩⟩; exact hab, fun h => ⟨(v, u), h, rfl⟩⟩

theorem q2_swap_nodup {l : List (Node × Node)} (hl : l.Nodup) : (l.map (fun p => (p.2, p.1))).Nodup :=
  List.pairwise_map.mpr (hl.imp fun hab hc => hab (Prod.ext (Prod.mk.inj hc).2 (Prod.mk.inj hc).1))

/-- `O` lists, without repetition, both orientations of what `I` lists once per unordered pair, and `L` the
    loops of `I`: then `|O| + |L| = 2 |I|` (a loop has only one orientation) -/
theorem q2_handshake {I O : List (Node × Node)} {L : List Node}
    (hIn : I.Nodup) (hI : ∀ u v, (u, v) ∈ I → (v, u) ∈ I → u = v) (hO : O.Nodup)
    (hm : ∀ u v, (u, v) ∈ O ↔ ((u, v) ∈ I ∨ (v, u) ∈ I)) (hL : L.Nodup) (hLm : ∀ n, n ∈ L ↔ (n, n) ∈ I) :
    O.length + L.length = 2 * I.length := by
  -- `O` is `I` followed by the mirror images of the pairs of `I` that are not loops
  have h1 : O.length = (I ++ (I.filter (fun p => !(p.1 == p.2))).map (fun p => (p.2, p.1))).length := by
    refine length_eq_of_nodup hO (List.nodup_append.mpr ⟨hIn, q2_swap_nodup (hIn.filter _), ?_⟩) ?_
    · rintro ⟨u, v⟩ h1 _ h2 rfl
      rw [q2_mem_swap, List.mem_filter] at h2
      exact beq_eq_false_iff_ne.mp ((Bool.not_eq_true' _).mp h2.2) (hI u v h1 h2.1).symm
    · rintro ⟨u, v⟩
      rw [hm, List.mem_append, q2_mem_swap, List.mem_filter]
      refine ⟨fun h => h.elim Or.inl fun h => ?_, Or.imp_right (·.1)⟩
      by_cases huv : v = u
      · subst huv; exact Or.inl h
      · exact Or.inr ⟨h, (Bool.not_eq_true' _).mpr (beq_false_of_ne huv)⟩
  have h2 : (I.filter (fun p => p.1 == p.2)).length = L.length := by
    refine (length_eq_of_nodup (hIn.filter _) ?_ ?_).trans (List.length_map (fun n => (n, n)))
    · exact List.pairwise_map.mpr (hL.imp fun hab hc => hab (Prod.mk.inj hc).1)
    · rintro ⟨u, v⟩
      simp only [List.mem_filter, List.mem_map, hLm, beq_iff_eq, Prod.mk.injEq]
      constructor
      · rintro ⟨h, rfl⟩; exact ⟨u, h, rfl, rfl⟩
      · rintro ⟨n, h, rfl, rfl⟩; exact ⟨h, rfl⟩
  have h3 := List.length_eq_countP_add_countP (fun p : Node × Node => !(p.1 == p.2)) (l := I)
  simp only [List.countP_eq_length_filter, Bool.not_eq_true', Bool.not_eq_false, Bool.decide_eq_true] at h3
  rw [h1, List.length_append, List.length_map, ← h2, Nat.two_mul, Nat.add_assoc, ← h3]

/-- the undirected handshake: a loop contributes 1 to its node's degree, so
    Σ degree + (number of loops present at `t`) = 2 · (number of listed pairs) -/
theorem q2_degreeSum_undirected_loops {g : Graph} (hk : q1_Keys g) (hn : q2_NodeInv g)
    (hd : g.directed = false) (t : Option Int) :
    g.degreeSum t + (g.nodeList.filter (fun n => g.hasInteraction n n t)).length =
      2 * (g.interactions none t).length := by
  have h1 : g.degreeSum t = (g.outInteractions none t).length := by
    rw [q2_degreeSum_eq, q2_length_out]
    simp [Graph.degree, hd, Graph.nbunch]
  rw [h1]
  refine q2_handshake (q2_nodup_of_pairwise_key (q2_interactions_once hk none hn.nodup t))
    (fun _ _ => q2_go_antisymm) (q2_out_nodup hk none hn.nodup t)
    (fun u v => by rw [C02_outInteractions_directed hn, C02_interactions_iff hn hd]) (hn.nodup.filter _) fun n => ?_
  rw [List.mem_filter, ← or_self ((n, n) ∈ _), ← C02_interactions_iff hn hd]
  exact and_iff_right_of_imp fun h => (q2_has_node hn h).1

theorem C02_degreeSum_undirected_loops {g : Graph} (h : WF g) (hn : q2_NodeInv g)
    (hd : g.directed = false) (t : Option Int) :
    g.degreeSum t + (g.nodeList.filter (fun n => g.hasInteraction n n t)).length =
      2 * (g.interactions none t).length :=
  q2_degreeSum_undirected_loops h.keys hn hd t

theorem q2_degreeSum_undirected {g : Graph} (hk : q1_Keys g) (hn : q2_NodeInv g) (hd : g.directed = false)
    (t : Option Int) (hloop : ∀ n, g.hasInteraction n n t = false) :
    g.degreeSum t = 2 * (g.interactions none t).length := by
  have hs := q2_degreeSum_undirected_loops hk hn hd t
  rwa [List.filter_eq_nil_iff.mpr fun n _ => by simp [hloop n], List.length_nil, Nat.add_zero] at hs

theorem q2_size_undirected {g : Graph} (hk : q1_Keys g) (hn : q2_NodeInv g) (hd : g.directed = false)
    (t : Option Int) (hloop : ∀ n, g.hasInteraction n n t = false) :
    g.size t = (g.interactions none t).length := by
  rw [Graph.size, q2_degreeSum_undirected hk hn hd t hloop, Nat.mul_div_cancel_left _ Nat.two_pos]

theorem C02_size_undirected {g : Graph} (h : WF g) (hn : q2_NodeInv g) (hd : g.directed = false)
    (t : Option Int) (hloop : ∀ n, g.hasInteraction n n t = false) :
    g.size t = (g.interactions none t).length :=
  q2_size_undirected h.keys hn hd t hloop

theorem C02_density_flat (g : Graph) :
    g.density none =
      (if g.size none = 0 ∨ g.numberOfNodes none ≤ 1 then (0, 1)
       else (if g.directed then (g.size none, g.numberOfNodes none * (g.numberOfNodes none - 1))
             else (2 * g.size none, g.numberOfNodes none * (g.numberOfNodes none - 1)))) := by
  simp only [Graph.density, Bool.or_eq_true, beq_iff_eq, decide_eq_true_eq]

/-- known finding D15: with a snapshot id the functional `dn.density(G, t)` is always 0 -/
theorem C02_density_t_zero (g : Graph) (x : Int) : g.density (some x) = (0, 1) := rfl

theorem C02_numberOfNodes_flat (g : Graph) : g.numberOfNodes none = g.nodeList.length := rfl

theorem q2_le_maxNat (l : List Nat) (x : Nat) (hx : x ∈ l) : x ≤ maxNat l := by
  induction l with
  | nil => cases hx
  | cons a rest ih =>
    rcases List.mem_cons.mp hx with rfl | h1
    · exact Nat.le_max_left ..
    · exact Nat.le_trans (ih h1) (Nat.le_max_right ..)

theorem q2_countEq_map (l : List Node) (f : Node → Nat) (k : Nat) :
    countEq (l.map f) k = (l.filter (fun n => f n == k)).length := by
  unfold countEq
  rw [List.filter_map, List.length_map]
  rfl

theorem q2_countEq_zero (l : List Nat) (k : Nat) (hk : maxNat l < k) : countEq l k = 0 := by
  unfold countEq
  rw [List.length_eq_zero_iff, List.filter_eq_nil_iff]
  intro a ha hc
  exact Nat.lt_irrefl _ (Nat.lt_of_le_of_lt (eq_of_beq hc ▸ q2_le_maxNat l a ha) hk)

/-- entry `k` of the histogram is the number of nodes of degree `k` (0 beyond the list) -/
theorem C02_degreeHistogram (g : Graph) (t : Option Int) (k : Nat) :
    (g.degreeHistogram t).getD k 0 = (g.nodeList.filter (fun n => g.degree n t == k)).length := by
  rw [← q2_countEq_map]
  simp only [Graph.degreeHistogram]
  split
  · rename_i hemp
    rw [List.isEmpty_iff] at hemp
    rw [hemp]; rfl
  · rw [List.getD_eq_getElem?_getD, List.getElem?_map]
    by_cases hk : k < maxNat (g.nodeList.map (fun n => g.degree n t)) + 1
    · rw [List.getElem?_range hk]; rfl
    · have hk := Nat.le_of_not_lt hk
      rw [List.getElem?_eq_none (by rwa [List.length_range])]
      exact (q2_countEq_zero _ k hk).symm

theorem C02_degreeHistogram_empty (g : Graph) (t : Option Int) (he : g.nodeList = []) :
    g.degreeHistogram t = [] := by
  simp [Graph.degreeHistogram, he]

theorem C02_degreeHistogram_length (g : Graph) (t : Option Int) (hne : g.nodeList ≠ []) :
    (g.degreeHistogram t).length = maxNat (g.nodeList.map (fun n => g.degree n t)) + 1 := by
  simp [Graph.degreeHistogram, hne]

theorem C02_degreeHistogram_beyond (g : Graph) (t : Option Int) (k : Nat)
    (hk : maxNat (g.nodeList.map (fun n => g.degree n t)) < k) :
    (g.degreeHistogram t).getD k 0 = 0 := by
  rw [C02_degreeHistogram, ← q2_countEq_map]
  exact q2_countEq_zero _ k hk

theorem q2_nonIntGo_cons (adj : Node → List Node) (n : Node) (rest : List Node) (u v : Node) :
    (u, v) ∈ nonIntGo adj (n :: rest) ↔ (u = n ∧ v ∈ rest ∧ v ∉ adj n) ∨ (u, v) ∈ nonIntGo adj rest := by
  rw [nonIntGo, List.mem_append, q2_mem_row, List.mem_filter]
  simp only [Bool.not_eq_true', List.contains_eq_mem, decide_eq_false_iff_not]

theorem q2_nonIntGo_mem (adj : Node → List Node) (ns : List Node) (hns : ns.Nodup) {u v : Node}
    (hm : (u, v) ∈ nonIntGo adj ns) : u ∈ ns ∧ v ∈ ns ∧ u ≠ v ∧ v ∉ adj u := by
  induction ns with
  | nil => cases hm
  | cons n rest ih =>
    rw [List.nodup_cons] at hns
    rcases (q2_nonIntGo_cons ..).mp hm with ⟨rfl, hr, ha⟩ | h
    · exact ⟨List.mem_cons_self, List.mem_cons_of_mem _ hr, fun hc => hns.1 (hc ▸ hr), ha⟩
    · obtain ⟨a, b, c, d⟩ := ih hns.2 h
      exact ⟨List.mem_cons_of_mem _ a, List.mem_cons_of_mem _ b, c, d⟩

theorem q2_nonIntGo_complete (adj : Node → List Node) (ns : List Node) {u v : Node}
    (hu : u ∈ ns) (hv : v ∈ ns) (huv : u ≠ v) (h1 : v ∉ adj u) (h2 : u ∉ adj v) :
    (u, v) ∈ nonIntGo adj ns ∨ (v, u) ∈ nonIntGo adj ns := by
  induction ns with
  | nil => cases hu
  | cons n rest ih =>
    simp only [q2_nonIntGo_cons]
    rcases List.mem_cons.mp hu with rfl | hu' <;> rcases List.mem_cons.mp hv with rfl | hv'
    · exact absurd rfl huv
    · exact Or.inl (Or.inl ⟨rfl, hv', h1⟩)
    · exact Or.inr (Or.inl ⟨rfl, hu', h2⟩)
    · exact (ih hu' hv').imp Or.inr Or.inr

theorem q2_nonIntGo_pairwise (adj : Node → List Node) (ns : List Node) (hns : ns.Nodup) :
    (nonIntGo adj ns).Pairwise (fun p q => ¬ (sameKey false p.1 p.2 q.1 q.2 = true)) := by
  induction ns with
  | nil => exact List.Pairwise.nil
  | cons n rest ih =>
    have h := List.nodup_cons.mp hns
    refine q2_pairwise_row (h.2.filter _) (ih h.2) ?_
    rintro ⟨a, b⟩ hq
    obtain ⟨ha, hb, _, _⟩ := q2_nonIntGo_mem adj rest h.2 hq
    exact ⟨fun hc => h.1 (hc ▸ ha), fun hc => h.1 (hc ▸ hb)⟩

theorem C02_nonInteractions {g : Graph} (hn : q2_NodeInv g) (t : Option Int) (u v : Node)
    (hm : (u, v) ∈ g.nonInteractions t) :
    u ∈ g.nodeList ∧ v ∈ g.nodeList ∧ u ≠ v ∧ v ∉ g.allNeighbors u t :=
  q2_nonIntGo_mem _ _ hn.nodup hm

theorem C02_nonInteractions_complete (g : Graph) (t : Option Int) (u v : Node)
    (hu : u ∈ g.nodeList) (hv : v ∈ g.nodeList) (huv : u ≠ v)
    (h1 : v ∉ g.allNeighbors u t) (h2 : u ∉ g.allNeighbors v t) :
    (u, v) ∈ g.nonInteractions t ∨ (v, u) ∈ g.nonInteractions t :=
  q2_nonIntGo_complete _ _ hu hv huv h1 h2

theorem C02_nonInteractions_once {g : Graph} (hn : q2_NodeInv g) (t : Option Int) :
    (g.nonInteractions t).Pairwise (fun p q => ¬ (sameKey false p.1 p.2 q.1 q.2 = true)) :=
  q2_nonIntGo_pairwise _ _ hn.nodup

/-- the listed pairs are exactly the unordered pairs of distinct nodes with no interaction at `t` -/
theorem C02_nonInteractions_iff {g : Graph} (hn : q2_NodeInv g) (t : Option Int) (u v : Node) :
    ((u, v) ∈ g.nonInteractions t ∨ (v, u) ∈ g.nonInteractions t) ↔
      (u ∈ g.nodeList ∧ v ∈ g.nodeList ∧ u ≠ v ∧
        g.hasInteraction u v t = false ∧ g.hasInteraction v u t = false) := by
  constructor
  · rintro (hm | hm)
    · obtain ⟨a, b, c, d⟩ := C02_nonInteractions hn t u v hm
      obtain ⟨d1, d2⟩ := (q1_not_mem_allNeighbors ..).mp d
      exact ⟨a, b, c, d2, d1⟩
    · obtain ⟨a, b, c, d⟩ := C02_nonInteractions hn t v u hm
      obtain ⟨d1, d2⟩ := (q1_not_mem_allNeighbors ..).mp d
      exact ⟨b, a, c.symm, d1, d2⟩
  · rintro ⟨a, b, c, d, e⟩
    exact C02_nonInteractions_complete g t u v a b c ((q1_not_mem_allNeighbors ..).mpr ⟨e, d⟩)
      ((q1_not_mem_allNeighbors ..).mpr ⟨d, e⟩)

theorem C02_history_interactions (ops : List Op) (u v : Node) (t : Option Int) :
    let g := ((Graph.empty false true).run ops).1
    q2_NodeInv g →
      ((u, v) ∈ g.interactions none t → g.hasInteraction u v t = true) ∧
      (g.hasInteraction u v t = true → ((u, v) ∈ g.interactions none t ∨ (v, u) ∈ g.interactions none t)) ∧
      (g.interactions none t).Pairwise (fun p q => ¬ (sameKey false p.1 p.2 q.1 q.2 = true)) ∧
      ((∀ n, g.hasInteraction n n t = false) → g.size t = (g.interactions none t).length) := by
  intro g hn
  have r := history_ok false ops
  exact ⟨C02_interactions_mem g t u v, C02_interactions_complete hn r.directed t u v,
    C02_interactions_once r.wf hn t, C02_size_undirected r.wf hn r.directed t⟩

/-- a pair is listed at `x` (in one orientation) iff some accepted span of the history covers `x` -/
theorem C02_history_interactions_log (ops : List Op) (u v : Node) (x : Int) :
    let g := ((Graph.empty false true).run ops).1
    q2_NodeInv g →
      (((u, v) ∈ g.interactions none (some x) ∨ (v, u) ∈ g.interactions none (some x)) ↔
        inLog false ((Graph.empty false true).runLog ops) u v x) := by
  intro g hn
  rw [← C02_interactions_iff hn (run_directed _ ops), presence_history]

theorem C02_history_outInteractions (ops : List Op) (u v : Node) (t : Option Int) :
    let g := ((Graph.empty true true).run ops).1
    q2_NodeInv g →
      ((u, v) ∈ g.outInteractions none t ↔ g.hasInteraction u v t = true) ∧
      (g.outInteractions none t).Nodup ∧
      g.size t = (g.outInteractions none t).length := by
  intro g hn
  have r := history_ok true ops
  exact ⟨C02_outInteractions_directed hn t u v, C02_outInteractions_nodup r.wf hn t,
    C02_size_directed r.wf hn r.directed t⟩

/-- triangle 0-1-2 plus a loop at 1, undirected, all at 5 -/
def q2_exU : Graph :=
  ((((Graph.empty false true).addInteraction 0 1 (some 5) none).1.addInteraction 1 2 (some 5) none).1
      |>.addInteraction 2 0 (some 5) none).1 |>.addInteraction 1 1 (some 5) none |>.1

/-- 0→1 and 2→0 at 5, directed -/
def q2_exD : Graph :=
  (((Graph.empty true true).addInteraction 0 1 (some 5) none).1.addInteraction 2 0 (some 5) none).1

/-- each undirected pair once (7 adjacency entries, 4 pairs), at an instant and flattened -/
example : q2_exU.interactions none (some 5) = [(0, 1), (0, 2), (1, 2), (1, 1)] ∧
    q2_exU.interactions none none = [(0, 1), (0, 2), (1, 2), (1, 1)] ∧
    (q2_exU.outInteractions none (some 5)).length = 7 ∧
    q2_exU.interactions none (some 6) = [] := by decide

/-- known finding D10: on a directed graph the `seen` set of `interactions_iter` drops 2→0 because 0 was
    visited before 2 -/
example : q2_exD.interactions none none = [(0, 1)] ∧
    q2_exD.outInteractions none none = [(0, 1), (2, 0)] ∧
    (q2_exD.interactions none none).length < (q2_exD.outInteractions none none).length ∧
    q2_exD.hasInteraction 2 0 none = true ∧ (2, 0) ∉ q2_exD.interactions none none := by decide

end Dynetx
