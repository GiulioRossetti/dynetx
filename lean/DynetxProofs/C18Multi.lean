import DynetxProofs.C18Text
/-
  C18 for comment markers and delimiters of several characters (DynetxModel/TextMulti.lean): the one-character readers
  of IO.lean are the instance `[c]`; the cut at a marker; the fuelled scan for the delimiter.  The noise, skip, bad-row,
  keys and terminator theorems of C18Text.lean / C18Terminator.lean are NOT restated for these readers.
-/
namespace Dynetx

open List

def RowS.toSS : RowS → RowSS
  | .skip => .skip
  | .bad => .bad
  | .row u v t e => .row u v t e

def RowI.toIS : RowI → RowIS
  | .skip => .skip
  | .bad => .bad
  | .row r => .row r

def RowSS.line : RowSS → Line (Node × Node × Int × Option Int)
  | .skip => .skip
  | .bad => .stop .type
  | .sepError => .stop .value
  | .row u v t e => .row (u, v, t, e)

def RowIS.line : RowIS → Line Ev
  | .skip => .skip
  | .bad => .stop .type
  | .sepError => .stop .value
  | .row r => .row r

theorem snapRowS_eq (cm : List Char) (delim : Option (List Char)) (line : List Char) :
    snapRowS cm delim line = match fieldsOfS cm delim line with
      | .skipped => .skip
      | .sepError => .sepError
      | .fields fs => (snapOfFields nodeOf fs).toSS := by
  unfold snapRowS
  cases fieldsOfS cm delim line with
  | skipped | sepError => rfl
  | fields fs =>
    rcases fs with _ | ⟨u, _ | ⟨v, _ | ⟨t, _ | ⟨e, rest⟩⟩⟩⟩
    iterate 3 rfl
    -- one conversion after the other: once one has failed the row is refused whatever the others give
    · dsimp only [snapOfFields]
      cases nodeOf u
      · rfl
      cases nodeOf v
      · rfl
      cases intOf t <;> rfl
    · dsimp only [snapOfFields]
      cases nodeOf u
      · rfl
      cases nodeOf v
      · rfl
      cases intOf t
      · rfl
      cases intOf e <;> rfl

theorem intRowS_eq (cm : List Char) (delim : Option (List Char)) (line : List Char) :
    intRowS cm delim line = match fieldsOfS cm delim line with
      | .skipped => .skip
      | .sepError => .sepError
      | .fields fs => (intOfFields nodeOf fs).toIS := by
  unfold intRowS
  cases fieldsOfS cm delim line with
  | skipped | sepError => rfl
  | fields fs =>
    rcases fs with _ | ⟨u, _ | ⟨v, _ | ⟨op, _ | ⟨t, _ | ⟨x, rest⟩⟩⟩⟩⟩
    iterate 4 rfl
    · dsimp only [intOfFields]
      cases nodeOf u
      · rfl
      cases nodeOf v
      · rfl
      cases intOf t <;> rfl
    · rfl

theorem RowS.toSS_line (r : RowS) : r.toSS.line = r.line := by cases r <;> rfl

theorem RowI.toIS_line (r : RowI) : r.toIS.line = r.line := by cases r <;> rfl

theorem parseSnapshotsTextS_go_eq (cm : List Char) (delim : Option (List Char)) (g : Graph) (lines : List (List Char)) :
    parseSnapshotsTextS.go cm delim g lines
      = foldExit (lineStep addRow) g (lines.map fun l => (snapRowS cm delim l).line) :=
  foldExit_unique (fun _ => rfl) (fun g l rest => by
    rw [parseSnapshotsTextS.go]; cases snapRowS cm delim l <;> rfl) g lines

theorem parseInteractionsTextS_go_eq (cm : List Char) (delim : Option (List Char)) (g : Graph)
    (lines : List (List Char)) :
    parseInteractionsTextS.go cm delim g lines
      = foldExit (lineStep Graph.replayRow) g (lines.map fun l => (intRowS cm delim l).line) :=
  foldExit_unique (fun _ => rfl) (fun g l rest => by
    rw [parseInteractionsTextS.go]; cases intRowS cm delim l <;> rfl) g lines

theorem isPrefixOf_single (c : Char) (x : Char) (xs : List Char) : [c].isPrefixOf (x :: xs) = (x == c) :=
  (Bool.and_true _).trans BEq.comm

theorem cutCommentS_single (c : Char) (l : List Char) : cutCommentS [c] l = cutComment c l := by
  induction l with
  | nil => rfl
  | cons x xs ih =>
    simp only [cutCommentS, cutComment, isPrefixOf_single, ih]

theorem splitOnSGo_single (d : Char) (l cur : List Char) :
    splitOnSGo [d] (l.length + 1) cur l = splitOnPPrepend (· == d) l cur := by
  induction l generalizing cur with
  | nil => rfl
  | cons x xs ih =>
    rw [length_cons, splitOnSGo, isPrefixOf_single]
    cases hx : x == d
    · exact (ih _).trans (splitOnPPrepend_cons_neg (p := (· == d)) hx).symm
    · exact (congrArg (cur.reverse :: ·) (ih [])).trans (splitOnPPrepend_cons_pos (p := (· == d)) hx).symm

theorem splitOnS_single (d : Char) (l : List Char) : splitOnS [d] l = some (splitOnChar d l) := by
  unfold splitOnS
  rw [splitOnSGo_single, splitOnPPrepend_nil_right, ← splitOn_eq_splitOnP, ← splitOnChar_eq_splitOn]
  rfl

theorem fieldsOfS_single (c : Char) (delim : Option Char) (line : List Char) :
    fieldsOfS [c] (delim.map (fun d => [d])) line =
      match fieldsOf c delim line with
      | none => .skipped
      | some fs => .fields fs := by
  unfold fieldsOfS fieldsOf
  simp only [cutCommentS_single]
  split
  · rfl
  · cases delim with
    | none => rfl
    | some d => simp only [Option.map_some, splitOnS_single]

theorem snapRowS_single_line (c : Char) (delim : Option Char) (line : List Char) :
    (snapRowS [c] (delim.map (fun d => [d])) line).line = (snapRow c delim line).line := by
  rw [snapRowS_eq, fieldsOfS_single, snapRow_eq]
  cases fieldsOf c delim line with
  | none => rfl
  | some fs => exact RowS.toSS_line _

theorem intRowS_single_line (c : Char) (delim : Option Char) (line : List Char) :
    (intRowS [c] (delim.map (fun d => [d])) line).line = (intRow c delim line).line := by
  rw [intRowS_eq, fieldsOfS_single, intRow_eq]
  cases fieldsOf c delim line with
  | none => rfl
  | some fs => exact RowI.toIS_line _

theorem parseSnapshotsTextS_single (directed : Bool) (c : Char) (delim : Option Char) (lines : List (List Char)) :
    parseSnapshotsTextS directed [c] (delim.map (fun d => [d])) lines = parseSnapshotsText directed c delim lines := by
  unfold parseSnapshotsTextS parseSnapshotsText
  rw [parseSnapshotsTextS_go_eq, parseSnapshotsText_go_eq]
  exact congrArg _ (map_congr_left fun l _ => snapRowS_single_line c delim l)

theorem parseInteractionsTextS_single (directed : Bool) (c : Char) (delim : Option Char) (lines : List (List Char)) :
    parseInteractionsTextS directed [c] (delim.map (fun d => [d])) lines = parseInteractionsText directed c delim lines := by
  unfold parseInteractionsTextS parseInteractionsText
  rw [parseInteractionsTextS_go_eq, parseInteractionsText_go_eq]
  exact congrArg _ (map_congr_left fun l _ => intRowS_single_line c delim l)

theorem isPrefixOf_append_of_le (p x y : List Char) (h : p.length ≤ x.length) :
    p.isPrefixOf (x ++ y) = p.isPrefixOf x := by
  rw [Bool.eq_iff_iff, isPrefixOf_iff_prefix, isPrefixOf_iff_prefix, prefix_iff_eq_take, prefix_iff_eq_take,
    take_append_of_le_length h]

theorem cutCommentS_of_prefix {cm l : List Char} (h : cm <+: l) : cutCommentS cm l = [] := by
  cases l with
  | nil => rfl
  | cons c cs => rw [cutCommentS, if_pos (isPrefixOf_iff_prefix.mpr h)]

theorem cutCommentS_append_marker (cm a b : List Char) : cutCommentS cm (a ++ cm ++ b) = cutCommentS cm (a ++ cm) := by
  induction a with
  | nil => rw [nil_append, cutCommentS_of_prefix (prefix_append cm b), cutCommentS_of_prefix prefix_rfl]
  | cons x xs ih =>
    have h := isPrefixOf_append_of_le cm (x :: (xs ++ cm)) b
      (length_cons ▸ length_append ▸ Nat.le_succ_of_le (Nat.le_add_left ..))
    simp only [cons_append, append_assoc] at h ih ⊢
    simp only [cutCommentS, h, ih]

/-- **C18 (text after the comment marker is ignored, any marker).** -/
theorem C18S_comment_ignored (cm a b b' : List Char) :
    cutCommentS cm (a ++ cm ++ b) = cutCommentS cm (a ++ cm ++ b') :=
  (cutCommentS_append_marker cm a b).trans (cutCommentS_append_marker cm a b').symm

theorem C18S_comment_absent (cm : List Char) (l : List Char) (h : ∀ i, i < l.length → cm.isPrefixOf (l.drop i) = false) :
    cutCommentS cm l = l := by
  induction l with
  | nil => rfl
  | cons x xs ih =>
    have h0 : cm.isPrefixOf (x :: xs) = false := h 0 (Nat.zero_lt_succ _)
    rw [cutCommentS, h0, ih fun i hi => h (i + 1) (Nat.succ_lt_succ hi)]
    rfl

/-- the fuel as a sum: no subtraction to carry through the induction -/
theorem splitOnSGo_field (a : Char) (d f : List Char) (hf : a ∉ f) (cur rest : List Char) (fuel : Nat) :
    splitOnSGo (a :: d) (f.length + fuel) cur (f ++ rest) = splitOnSGo (a :: d) fuel (f.reverse ++ cur) rest := by
  induction f generalizing cur with
  | nil => simp
  | cons x xs ih =>
    have hx : ¬ (a :: d).isPrefixOf (x :: (xs ++ rest)) = true := fun h =>
      hf (by simp [List.isPrefixOf] at h; simp [h.1])
    rw [length_cons, Nat.add_right_comm, cons_append, splitOnSGo, if_neg hx, ih fun h => hf (mem_cons_of_mem _ h)]
    simp

/-- asked of `a`, the first character of the delimiter, only: the scan then meets a delimiter only where one was
    written.  The fuel has a surplus `k` because a delimiter of `d.length + 1` characters costs one unit: the surplus
    grows along the induction -/
theorem splitOnSGo_join (a : Char) (d : List Char) :
    ∀ (fields : List (List Char)), fields ≠ [] → (∀ f ∈ fields, a ∉ f) → ∀ (k : Nat),
      splitOnSGo (a :: d) (((a :: d).intercalate fields).length + 1 + k) [] ((a :: d).intercalate fields) = fields := by
  intro fields
  induction fields with
  | nil => intro h; exact absurd rfl h
  | cons f rest ih =>
    intro _ hf k
    have hfield := splitOnSGo_field a d f (hf f mem_cons_self) []
    cases rest with
    | nil =>
      have := hfield [] (k + 1)
      rw [append_nil] at this
      rw [intercalate_singleton, Nat.add_assoc, Nat.add_comm 1 k, this]
      simp [splitOnSGo, List.isPrefixOf]
    | cons g rest' =>
      rw [intercalate_cons_cons, append_assoc, length_append, length_append,
        show f.length + ((a :: d).length + ((a :: d).intercalate (g :: rest')).length) + 1 + k
          = f.length + (((a :: d).intercalate (g :: rest')).length + 1 + (d.length + k) + 1) by
          rw [length_cons]; omega,
        hfield]
      simp only [splitOnSGo, isPrefixOf_iff_prefix.mpr (prefix_append (a :: d) _), if_true, drop_left, append_nil,
        reverse_reverse]
      rw [ih (cons_ne_nil _ _) fun f' hf' => hf f' (mem_cons_of_mem _ hf')]

/-- **C18 (the delimiter is honoured, any delimiter).**  Stated for the scan with any sufficient fuel;
    `C18S_split_join_opt` is the same for `splitOnS`, Python's `s.split(d)`. -/
theorem C18S_split_join (d : List Char) (hd : d ≠ []) :
    ∀ (fields : List (List Char)), fields ≠ [] → (∀ f ∈ fields, ∀ c ∈ f, c ∉ d) →
      ∀ (fuel : Nat), (d.intercalate fields).length + 1 ≤ fuel →
        splitOnSGo d fuel [] (d.intercalate fields) = fields := by
  obtain ⟨a, d', rfl⟩ := exists_cons_of_ne_nil hd
  intro fields hne hf fuel hfuel
  obtain ⟨k, rfl⟩ := Nat.exists_eq_add_of_le hfuel
  exact splitOnSGo_join a d' fields hne (fun f hm ha => hf f hm a ha mem_cons_self) k

theorem C18S_split_join_opt (d : List Char) (hd : d ≠ []) (fields : List (List Char)) (hne : fields ≠ [])
    (hf : ∀ f ∈ fields, ∀ c ∈ f, c ∉ d) : splitOnS d (d.intercalate fields) = some fields := by
  obtain ⟨a, d', rfl⟩ := exists_cons_of_ne_nil hd
  exact congrArg some (C18S_split_join _ hd fields hne hf _ (Nat.le_refl _))

/-- `ValueError: empty separator`: it does not split into characters -/
theorem C18S_empty_separator (l : List Char) : splitOnS [] l = none := rfl

/-- a two-character delimiter; a marker `//` that a lone `/` does not trigger -/
example : splitOnS [':', ':'] "1::23::4".toList = some ["1".toList, "23".toList, "4".toList] := by simp only [String.reduceToList]; decide
example : cutCommentS ['/', '/'] "1/2 3 // note".toList = "1/2 3 ".toList := by simp only [String.reduceToList]; decide

end Dynetx
