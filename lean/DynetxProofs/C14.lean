import DynetxProofs.Lemmas.Lists
/-
  C14: `annotate_paths` (algorithms/paths.py) selects exactly the optimal paths. `shortest`, `fastest` and `foremost`
  come from one pass that keeps the running minimum of `path_length`, of `path_duration`, of the last instant, and the
  paths attaining it (`trackMin_foldl`); `fastest_shortest` and `shortest_fastest` from a dictionary over `shortest`,
  over `fastest` (`mem_secondary`), which is why these two hold each path once.
-/
namespace Dynetx

section TrackMin
variable {κ : Type} (lt eq : κ → κ → Bool) (key : TPath → κ)

theorem trackMin_some (k : κ) (acc : List TPath) (p : TPath) :
    trackMin lt eq key (some k, acc) p =
      if lt (key p) k then (some (key p), [p])
      else if eq (key p) k then (some k, acc ++ [p]) else (some k, acc) := rfl

theorem trackMin_none (acc : List TPath) (p : TPath) :
    trackMin lt eq key (none, acc) p = (some (key p), [p]) := rfl

variable {lt eq key} (emb : κ → Int)
  (hlt : ∀ a b, lt a b = true ↔ emb a < emb b) (heq : ∀ a b, eq a b = true ↔ emb a = emb b)
include hlt heq

/-- The single pass returns, in order and with duplicates, exactly the elements whose key is minimal. The keys are
    compared through an embedding `emb` into `Int` that `lt` and `eq` decide (the identity, or the cast from `Nat`).
    Along the way the state is `(some k, …)` with `k` a key of the prefix, a lower bound of its keys, and the list
    holds the elements of the prefix with that key. -/
theorem trackMin_foldl (paths : List TPath) :
    (paths.foldl (trackMin lt eq key) (none, [])).2 =
      paths.filter fun p => decide (∀ q ∈ paths, emb (key p) ≤ emb (key q)) := by
  have inv := foldl_prefix_inv (R := fun _ _ => True) (trackMin lt eq key)
    (fun done st => (done = [] ∧ st = (none, [])) ∨ ∃ k, (∃ q ∈ done, emb (key q) = emb k) ∧
      (∀ q ∈ done, emb k ≤ emb (key q)) ∧ st = (some k, done.filter fun p => decide (emb (key p) = emb k)))
    ?_ paths [] (none, []) (List.pairwise_of_forall fun _ _ => trivial) (Or.inl ⟨rfl, rfl⟩)
  · rw [List.nil_append] at inv
    rcases inv with ⟨rfl, _⟩ | ⟨k, ⟨q0, hq0, hk⟩, hmin, hst⟩
    · rfl
    · rw [hst]
      exact List.filter_congr fun p hp => decide_eq_decide.mpr
        ⟨fun h q hq => h ▸ hmin q hq, fun h => Int.le_antisymm (hk ▸ h q0 hq0) (hmin p hp)⟩
  · rintro done p st - (⟨rfl, rfl⟩ | ⟨k, ⟨q0, hq0, hk⟩, hmin, rfl⟩)
    · exact Or.inr ⟨key p, ⟨p, List.mem_cons_self, rfl⟩, fun q hq => List.mem_singleton.mp hq ▸ Int.le_refl _,
        by simp [trackMin_none]⟩
    · right
      simp only [trackMin_some, List.filter_append, List.mem_append, List.mem_singleton]
      by_cases h1 : emb (key p) < emb k
      · refine ⟨key p, ⟨p, Or.inr rfl, rfl⟩, ?_, ?_⟩
        · rintro q (hq | rfl)
          · exact Int.le_trans (Int.le_of_lt h1) (hmin q hq)
          · exact Int.le_refl _
        · have : done.filter (fun q => decide (emb (key q) = emb (key p))) = [] :=
            List.filter_eq_nil_iff.mpr fun q hq hc =>
              Int.ne_of_gt (Int.lt_of_lt_of_le h1 (hmin q hq)) (of_decide_eq_true hc)
          simp [(hlt _ _).mpr h1, this]
      · rw [if_neg (mt (hlt _ _).mp h1)]
        refine ⟨k, ⟨q0, Or.inl hq0, hk⟩, ?_, ?_⟩
        · rintro q (hq | rfl)
          · exact hmin q hq
          · exact Int.not_lt.mp h1
        · by_cases h2 : emb (key p) = emb k
          · simp [(heq _ _).mpr h2, h2]
          · simp [mt (heq _ _).mp h2, h2]

end TrackMin

theorem trackMin_foldl_nil {κ : Type} (lt eq : κ → κ → Bool) (key : TPath → κ) :
    ([] : List TPath).foldl (trackMin lt eq key) (none, []) = (none, []) := rfl

theorem count_filter_ite {α : Type} [BEq α] [LawfulBEq α] (P : α → Prop) [DecidablePred P] (l : List α) (a : α) :
    (l.filter fun x => decide (P x)).count a = if P a then l.count a else 0 := by
  split
  · next h => exact List.count_filter (decide_eq_true h)
  · next h => exact List.count_eq_zero_of_not_mem fun hm => h (of_decide_eq_true (List.mem_filter.mp hm).2)

theorem annot_shortest (paths : List TPath) : (annotatePaths paths).shortest =
    paths.filter fun p => decide (∀ q ∈ paths, pathLength p ≤ pathLength q) := by
  refine (trackMin_foldl (fun n : Nat => (n : Int)) (by simp) (by simp [Int.ofNat_inj]) paths).trans ?_
  simp only [Int.ofNat_le]

theorem annot_fastest (paths : List TPath) : (annotatePaths paths).fastest =
    paths.filter fun p => decide (∀ q ∈ paths, pathDuration p ≤ pathDuration q) :=
  trackMin_foldl id (by simp) (by simp) paths

theorem annot_foremost (paths : List TPath) : (annotatePaths paths).foremost =
    paths.filter fun p => decide (∀ q ∈ paths, lastTime p ≤ lastTime q) :=
  trackMin_foldl id (by simp) (by simp) paths

/-! ### `shortest`, `fastest`, `foremost`: exactly the paths with the fewest hops, the least duration, the earliest arrival -/

theorem C14_shortest (paths : List TPath) (hne : paths ≠ []) :
    ∀ p, p ∈ (annotatePaths paths).shortest ↔ (p ∈ paths ∧ ∀ q ∈ paths, pathLength p ≤ pathLength q) := by
  intro p; rw [annot_shortest, List.mem_filter, decide_eq_true_eq]

theorem C14_fastest (paths : List TPath) (hne : paths ≠ []) :
    ∀ p, p ∈ (annotatePaths paths).fastest ↔ (p ∈ paths ∧ ∀ q ∈ paths, pathDuration p ≤ pathDuration q) := by
  intro p; rw [annot_fastest, List.mem_filter, decide_eq_true_eq]

theorem C14_foremost (paths : List TPath) (hne : paths ≠ []) :
    ∀ p, p ∈ (annotatePaths paths).foremost ↔ (p ∈ paths ∧ ∀ q ∈ paths, lastTime p ≤ lastTime q) := by
  intro p; rw [annot_foremost, List.mem_filter, decide_eq_true_eq]

/-! ### … each as often as the input has it -/

theorem C14_shortest_count (paths : List TPath) (hne : paths ≠ []) (p : TPath) :
    (annotatePaths paths).shortest.count p
      = if (∀ q ∈ paths, pathLength p ≤ pathLength q) then paths.count p else 0 := by
  rw [annot_shortest, count_filter_ite]

theorem C14_fastest_count (paths : List TPath) (hne : paths ≠ []) (p : TPath) :
    (annotatePaths paths).fastest.count p
      = if (∀ q ∈ paths, pathDuration p ≤ pathDuration q) then paths.count p else 0 := by
  rw [annot_fastest, count_filter_ite]

theorem C14_foremost_count (paths : List TPath) (hne : paths ≠ []) (p : TPath) :
    (annotatePaths paths).foremost.count p
      = if (∀ q ∈ paths, lastTime p ≤ lastTime q) then paths.count p else 0 := by
  rw [annot_foremost, count_filter_ite]

theorem secondary_nodup (f : TPath → Int) (l : List TPath) : (secondary f l).Nodup := by
  unfold secondary
  simp only
  split
  · exact List.nodup_nil
  · exact (nodup_foldl_insertNew List.nodup_nil).filter _

theorem mem_secondary (f : TPath → Int) (l : List TPath) (p : TPath) :
    p ∈ secondary f l ↔ (p ∈ l ∧ ∀ q ∈ l, f p ≤ f q) := by
  have hk : ∀ q, q ∈ l.foldl insertNew [] ↔ q ∈ l := fun q => mem_foldl_insertNew.trans (or_iff_right List.not_mem_nil)
  simp only [← hk]
  unfold secondary
  generalize l.foldl insertNew [] = ks
  simp only
  split
  · next h =>
    rw [List.map_eq_nil_iff.mp (minList_eq_none.mp h)]
    exact iff_of_false List.not_mem_nil (List.not_mem_nil ·.1)
  · next m h =>
    obtain ⟨hm1, hm2⟩ := minList_spec h
    obtain ⟨q0, hq0, rfl⟩ := List.mem_map.mp hm1
    rw [List.mem_filter, beq_iff_eq]
    exact and_congr_right fun hp => ⟨fun h q hq => h ▸ hm2 _ (List.mem_map_of_mem hq),
      fun h => Int.le_antisymm (h q0 hq0) (hm2 _ (List.mem_map_of_mem hp))⟩

/-! ### `fastest_shortest`, `shortest_fastest`: the least-duration members of `shortest`, the fewest-hop members of
  `fastest`, each once -/

theorem C14_fastest_shortest (paths : List TPath) (_hne : paths ≠ []) :
    (∀ p, p ∈ (annotatePaths paths).fastestShortest ↔
      (p ∈ (annotatePaths paths).shortest ∧
        ∀ q ∈ (annotatePaths paths).shortest, pathDuration p ≤ pathDuration q)) ∧
    (annotatePaths paths).fastestShortest.Nodup := by
  unfold annotatePaths
  exact ⟨mem_secondary _ _, secondary_nodup _ _⟩

theorem C14_shortest_fastest (paths : List TPath) (_hne : paths ≠ []) :
    (∀ p, p ∈ (annotatePaths paths).shortestFastest ↔
      (p ∈ (annotatePaths paths).fastest ∧
        ∀ q ∈ (annotatePaths paths).fastest, pathLength p ≤ pathLength q)) ∧
    (annotatePaths paths).shortestFastest.Nodup := by
  unfold annotatePaths
  refine ⟨fun p => (mem_secondary _ _ p).trans ?_, secondary_nodup _ _⟩
  simp only [Int.ofNat_le]

/-! ### every returned path is an input -/

theorem C14_subset (paths : List TPath) :
    ∀ p, (p ∈ (annotatePaths paths).shortest ∨ p ∈ (annotatePaths paths).fastest ∨
          p ∈ (annotatePaths paths).foremost ∨ p ∈ (annotatePaths paths).fastestShortest ∨
          p ∈ (annotatePaths paths).shortestFastest) → p ∈ paths := by
  intro p h
  by_cases hne : paths = []
  · subst hne
    revert h
    simp [annotatePaths, secondary, minList]
  · rcases h with h | h | h | h | h
    · exact ((C14_shortest paths hne p).1 h).1
    · exact ((C14_fastest paths hne p).1 h).1
    · exact ((C14_foremost paths hne p).1 h).1
    · exact ((C14_shortest paths hne p).1 (((C14_fastest_shortest paths hne).1 p).1 h).1).1
    · exact ((C14_fastest paths hne p).1 (((C14_shortest_fastest paths hne).1 p).1 h).1).1

/-- three paths; the first and third tie on length (1 hop), the first two tie on arrival (time 2) -/
example :
    let a : TPath := [(0, 1, 2)]
    let b : TPath := [(0, 2, 1), (2, 1, 2)]
    let c : TPath := [(0, 1, 5)]
    (annotatePaths [a, b, c]).shortest = [a, c] ∧
    (annotatePaths [a, b, c]).fastest = [a, c] ∧
    (annotatePaths [a, b, c]).foremost = [a, b] ∧
    (annotatePaths [a, b, c]).fastestShortest = [a, c] ∧
    (annotatePaths [a, b, c]).shortestFastest = [a, c] := by decide

/-- duplicates are kept by the primary annotations and collapsed by the secondary ones -/
example :
    let a : TPath := [(0, 1, 2)]
    let b : TPath := [(0, 2, 1), (2, 1, 2)]
    (annotatePaths [a, b, a]).shortest = [a, a] ∧
    (annotatePaths [a, b, a]).fastestShortest = [a] := by decide

/-! ### `path_duration`

  The duration of a path (last instant minus first instant, what `path_duration` returns) is the sum of the waiting
  times between consecutive hops.  Over the integers the two are the same number; a `path_duration` that sums the gaps
  differs on fractional instants only, where floating-point addition does not telescope (seeded change r10-C14-m1,
  probed on the implementation by the op `annot`). -/

/-- the gaps between consecutive hops -/
def hopGaps : TPath → List Int
  | a :: b :: r => (b.2.2 - a.2.2) :: hopGaps (b :: r)
  | _ => []

theorem c14_lastTime_cons (a b : Hop) (r : TPath) : lastTime (a :: b :: r) = lastTime (b :: r) := by
  simp [lastTime, List.getLast?_cons_cons]

theorem C14_duration_telescopes (p : TPath) : (hopGaps p).sum = pathDuration p := by
  induction p using consec_induction with
  | nil => rfl
  | single a => exact (Int.sub_self _).symm
  | cons2 a b r ih =>
    rw [hopGaps, List.sum_cons, ih, pathDuration, pathDuration, c14_lastTime_cons]
    -- `(b − a) + (last − b) = last − a`
    show _ + (_ - b.2.2) = _ - a.2.2
    rw [Int.add_comm, ← Int.add_sub_assoc, Int.sub_add_cancel]

example : hopGaps [(1, 2, 1), (2, 3, 4), (3, 4, 9)] = [3, 5] ∧ pathDuration [(1, 2, 1), (2, 3, 4), (3, 4, 9)] = 8 := by decide

/-- the duration only looks at the two ends: the instants of the hops in between, increasing or not, do not matter
    (seeded change r11-C14-m1 computed max minus min of all hop times instead) -/
theorem C14_duration_ends (a z : Hop) (mid : TPath) : pathDuration (a :: (mid ++ [z])) = z.2.2 - a.2.2 := by
  unfold pathDuration lastTime
  rw [← List.cons_append, List.getLast?_concat]; rfl

/-- a middle hop earlier than the first one -/
example : pathDuration [(1, 2, 5), (2, 3, 1), (3, 4, 6)] = 1 := by decide

end Dynetx
