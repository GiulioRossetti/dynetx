import DynetxProofs.C12
/-
  C13 — completeness of `Graph.timeRespectingPaths` / `Graph.allTimeRespectingPaths`
  (algorithms/paths.py `time_respecting_paths`, `all_time_respecting_paths`): no time-respecting path is missed,
  provided the first hop of the path is not a self-loop of the root (finding D21).

  A valid hop list is lifted to its occurrences, which `validTRP_hopsOf` (C12) makes a simple path of the DAG from a
  source to a target, so the enumeration meets it; the all-pairs variant concatenates the per-root results.
-/
namespace Dynetx

/-- **edge completeness**: if `y@t` is the head of an edge of the DAG, `t < t'` are window instants, `y` has a
    neighbour at every window instant strictly between them and `n` is a neighbour of `y` at `t'`, then
    `y@t → n@t'` is an edge of the DAG -/
theorem c13_edge_complete {g : Graph} {u : Node} {v : Option Node} {start stop : Option Int} {d : Dag}
    (hids : g.ids.Pairwise (· < ·)) (h : g.temporalDag u v start stop = .ok d) :
    ∀ e ∈ d.edges, ∀ t' ∈ dagWindow g start stop, e.2.2 < t' →
      (∀ w' ∈ dagWindow g start stop, e.2.2 < w' → w' < t' → g.neighbors e.2.1 (some w') ≠ []) →
      ∀ n ∈ g.neighbors e.2.1 (some t'), (e.2, (n, t')) ∈ d.edges :=
  fun e he _ ht' hlt hal _ hn =>
    ((temporalDag_invT hids h).edges_iff _).mpr ⟨ht', hn, Or.inr ⟨⟨e, he, rfl⟩, hlt, hal⟩⟩

/-- the head of an edge that interacts at every later window instant is still active at the end -/
theorem c13_head_active {g : Graph} {u : Node} {v : Option Node} {start stop : Option Int} {d : Dag}
    (hids : g.ids.Pairwise (· < ·)) (h : g.temporalDag u v start stop = .ok d) :
    ∀ e ∈ d.edges, (∀ w' ∈ dagWindow g start stop, e.2.2 < w' → g.neighbors e.2.1 (some w') ≠ []) →
      e.2 ∈ d.active :=
  fun e he hact => ((temporalDag_invT hids h).active_iff e.2).mpr ⟨⟨e, he, rfl⟩, hact⟩

/-- `(a, o.1, o.2)` is the hop before the hop list `rest`, as in `c12_tail_iff`. If the whole is linked, `o` followed
    by the occurrences the hops of `rest` arrive at has `rest` as its hops, and its instants increase. -/
theorem c13_occs_tail (g : Graph) (W : List Int) (rest : TPath) (a : Node) (o : Occ)
    (hl : c12_linked g W ((a, o.1, o.2) :: rest)) :
    hopsOf (o :: rest.map occF) = rest ∧ ((o :: rest.map occF).map (·.2)).Pairwise (· < ·) := by
  induction rest generalizing a o with
  | nil => exact ⟨rfl, List.pairwise_singleton _ _⟩
  | cons h rest ih =>
    obtain ⟨h1, h2, _, _, hl⟩ := hl
    obtain ⟨ih1, ih2⟩ := ih h.1 (occF h) hl
    refine ⟨?_, List.pairwise_cons.mpr ⟨fun x hx => ?_, ih2⟩⟩
    · rw [List.map_cons, c12_hopsOf_cons2, ih1]
      exact congrArg (fun a => (a, h.2.1, h.2.2) :: rest) h1
    · rcases List.mem_cons.mp hx with rfl | hx
      · exact h2
      · exact Int.lt_trans h2 (List.rel_of_pairwise_cons ih2 hx)

/-- **path lifting**: a valid time-respecting path whose first hop does not come back to the root is kept. Its
    occurrences, `u` at the instant of the first hop and then the arrival of each hop, leave `u` along a root edge, so
    `validTRP_hopsOf` makes them a path of the DAG; the times increase, so it is simple. -/
theorem c13_kept {g : Graph} {u : Node} {v : Option Node} {start stop : Option Int} {d : Dag}
    (hids : g.ids.Pairwise (· < ·)) (hd : g.temporalDag u v start stop = .ok d)
    {p : TPath} (hp : ValidTRP g u v (dagWindow g start stop) p)
    (hfirst : ∀ hop, p.head? = some hop → hop.2.1 ≠ u) : p ∈ keptPaths d d.pairs := by
  obtain ⟨h, rest, rfl⟩ := List.exists_cons_of_ne_nil hp.nonempty
  obtain rfl : h.1 = u := hp.starts h rfl
  have h0 := temporalDag_inv hd
  have hh := hp.hops h List.mem_cons_self
  have hroot : ((h.1, h.2.2), occF h) ∈ d.edges := h0.root_edges h.2.2 hh.1 h.2.1 hh.2
  obtain ⟨hq, htimes⟩ := c13_occs_tail g _ rest h.1 (occF h) hp.linked
  replace hq : hopsOf ((h.1, h.2.2) :: occF h :: rest.map occF) = h :: rest := by
    rw [c12_hopsOf_cons2, hq]
    rfl
  obtain ⟨hc, hpp, hend⟩ := (validTRP_hopsOf hids hd (rest.map occF) rfl hroot).mp (hq.symm ▸ hp)
  have hnd : ((h.1, h.2.2) :: occF h :: rest.map occF).Nodup := by
    refine List.nodup_cons.mpr ⟨fun hm => ?_, htimes.of_map _ fun _ _ hlt heq => Int.lt_irrefl _ (heq ▸ hlt)⟩
    rcases List.mem_cons.mp hm with heq | hm
    · exact hfirst h rfl (congrArg Prod.fst heq).symm
    · exact Int.lt_irrefl _ (List.rel_of_pairwise_cons htimes (List.mem_map_of_mem (f := (·.2)) hm))
  obtain ⟨t, ht⟩ : ∃ t, (occF h :: rest.map occF).getLast? = some t :=
    ⟨_, List.getLast?_eq_some_getLast (List.cons_ne_nil _ _)⟩
  obtain ⟨y, hy⟩ := c12_consec_pred _ (show c12_consec _ (_ :: _ :: _) from ⟨hroot, hc⟩) t (List.mem_of_getLast? ht)
  have htgt : t ∈ d.targets := (h0.targets_iff t).mpr ⟨⟨(y, t), hy, rfl⟩, fun w hw => hend w hw t ht⟩
  have hsrc : (h.1, h.2.2) ∈ d.sources := (h0.sources_iff _).mpr ⟨rfl, hh.1, List.ne_nil_of_mem hh.2⟩
  have hsp : (h.1, h.2.2) :: occF h :: rest.map occF ∈ simplePaths d (h.1, h.2.2) t :=
    (c12_simplePaths_iff ..).mpr ⟨rfl, (List.getLast?_cons_cons).trans ht, hnd, hroot, hc⟩
  exact mem_keptPaths.mpr ⟨⟨(_, t), Dag.mem_pairs.mpr ⟨hsrc, htgt⟩, _, hsp, hq⟩, hq ▸ hpp, hp.nonempty⟩

/-- **C13 (completeness).** Every genuine time-respecting path from `u` (to `v`) inside the window whose first hop
    is not a self-loop of the root `(u, u, t)` is returned, filed under its key (first node, last node). -/
theorem C13_complete (g : Graph) (hids : g.ids.Pairwise (· < ·)) (u : Node) (v : Option Node)
    (start stop : Option Int) (res : List ((Node × Node) × List TPath))
    (h : g.timeRespectingPaths u v start stop = .ok res) (hu : g.hasNode u start = true)
    (p : TPath) (hp : ValidTRP g u v (dagWindow g start stop) p)
    (hfirst : ∀ hop, p.head? = some hop → hop.2.1 ≠ u) :
    ∃ kp ∈ res, kp.1 = pathKey p ∧ p ∈ kp.2 := by
  rcases trp_ok h with ⟨hu', _⟩ | ⟨d, hd, rfl⟩
  · rw [hu] at hu'
    cases hu'
  · exact groupPaths_mem (c13_kept hids hd hp hfirst)

/-- **C13 (completeness, root without self-loop in the window).** Then no valid path has a first hop `(u, u, t)`, and
    `C13_complete` applies to all of them. -/
theorem C13_complete_noloop (g : Graph) (hids : g.ids.Pairwise (· < ·)) (u : Node) (v : Option Node)
    (start stop : Option Int) (res : List ((Node × Node) × List TPath))
    (h : g.timeRespectingPaths u v start stop = .ok res) (hu : g.hasNode u start = true)
    (hloop : ∀ t ∈ dagWindow g start stop, u ∉ g.neighbors u (some t))
    (p : TPath) (hp : ValidTRP g u v (dagWindow g start stop) p) :
    ∃ kp ∈ res, kp.1 = pathKey p ∧ p ∈ kp.2 :=
  C13_complete g hids u v start stop res h hu p hp fun hop hh heq => by
    have h1 := hp.hops hop (List.mem_of_head? hh)
    rw [hp.starts hop hh, heq] at h1
    exact hloop _ h1.1 h1.2

/-- **C13 (exactness).** When the root has no self-loop inside the window, the returned paths are exactly the
    genuine time-respecting paths. -/
theorem C13_exact (g : Graph) (hids : g.ids.Pairwise (· < ·)) (u : Node) (v : Option Node)
    (start stop : Option Int) (res : List ((Node × Node) × List TPath))
    (h : g.timeRespectingPaths u v start stop = .ok res) (hu : g.hasNode u start = true)
    (hloop : ∀ t ∈ dagWindow g start stop, u ∉ g.neighbors u (some t)) (p : TPath) :
    (∃ kp ∈ res, p ∈ kp.2) ↔ ValidTRP g u v (dagWindow g start stop) p := by
  constructor
  · rintro ⟨kp, hkp, hm⟩
    exact (C12_sound g hids u v start stop res h kp hkp p hm).1
  · intro hp
    obtain ⟨kp, hkp, _, hm⟩ := C13_complete_noloop g hids u v start stop res h hu hloop p hp
    exact ⟨kp, hkp, hm⟩

/-- when `u` has no interaction at `start` (for `start = none`: when `u` is not a node) the result is empty -/
theorem C13_absent_root (g : Graph) (u : Node) (v : Option Node) (start stop : Option Int)
    (hu : g.hasNode u start = false) : g.timeRespectingPaths u v start stop = .ok [] := by
  unfold Graph.timeRespectingPaths
  rw [hu]
  rfl

/-- every key starts with the root, since every path does. `hids` is there for `C12_sound` only: the sources are
    occurrences of the root on any graph (`DagInv.sources_iff`). -/
theorem c13_trp_key_fst {g : Graph} (hids : g.ids.Pairwise (· < ·)) {u : Node} {v : Option Node}
    {start stop : Option Int} {r : c13_Res} (h : g.timeRespectingPaths u v start stop = .ok r) :
    ∀ kp ∈ r, kp.1.1 = u := by
  intro kp hkp
  obtain ⟨p, hp⟩ : ∃ p, p ∈ kp.2 := by
    rcases trp_ok h with ⟨_, rfl⟩ | ⟨_, _, rfl⟩
    · cases hkp
    · obtain ⟨⟨p, hp, hk⟩, h2⟩ := mem_groupPaths.mp hkp
      exact ⟨p, h2 ▸ List.mem_filter.mpr ⟨hp, beq_iff_eq.mpr hk⟩⟩
  obtain ⟨hv, hk⟩ := C12_sound g hids u v start stop r h kp hkp p hp
  rw [hk]
  exact c12_pathKey_fst hv

/-- the result for one root; `[]` stands for a failing call, which `C13_all_eq` never meets: its first conjunct says
    that no call fails -/
def c13_rOf (g : Graph) (start stop : Option Int) (u : Node) : c13_Res :=
  match g.timeRespectingPaths u none start stop with
  | .ok r => r
  | .error _ => []

theorem c13_rOf_eq {g : Graph} {start stop : Option Int} {u : Node} {r : c13_Res}
    (h : g.timeRespectingPaths u none start stop = .ok r) : c13_rOf g start stop u = r := by
  unfold c13_rOf
  rw [h]

theorem c13_merge_eq {u : Node} (r res : c13_Res) (hnd : (r.map (·.1)).Nodup) (hu : ∀ kp ∈ r, kp.1.1 = u)
    (hfresh : ∀ kp ∈ r, ∀ e ∈ res, e.1 ≠ kp.1) : r.foldl (c13_mergeStep u) res = res ++ r := by
  induction r generalizing res with
  | nil => exact (List.append_nil res).symm
  | cons kp r ih =>
    have hk : ((u, kp.1.2), kp.2) = kp := by rw [← hu kp List.mem_cons_self]
    rw [List.map_cons, List.nodup_cons] at hnd
    have hnew : ¬ res.any (fun e => e.1 == (u, kp.1.2)) = true := fun hany => by
      obtain ⟨e, he, hek⟩ := List.any_eq_true.mp hany
      exact hfresh kp List.mem_cons_self e he ((eq_of_beq hek).trans (congrArg Prod.fst hk))
    rw [List.foldl_cons, c13_mergeStep, upsert, if_neg hnew, hk,
      ih _ hnd.2 (fun kp' h => hu kp' (List.mem_cons_of_mem _ h)), List.append_assoc]
    · rfl
    · intro kp' hkp' e he
      rcases List.mem_append.mp he with he | he
      · exact hfresh kp' (List.mem_cons_of_mem _ hkp') e he
      · rw [List.mem_singleton.mp he]
        exact fun heq => hnd.1 (heq ▸ List.mem_map_of_mem hkp')

/-- **C13 (all pairs, aggregation identity).** With duplicate-free roots, no call fails and the result is the
    concatenation, in the order of the roots, of the results of the single-root calls. -/
theorem C13_all_eq (g : Graph) (hids : g.ids.Pairwise (· < ·)) (start stop minT : Option Int) (res : c13_Res)
    (h : g.allTimeRespectingPaths start stop minT = .ok res) (hnd : (g.nodesAt minT).Nodup) :
    (∀ u ∈ g.nodesAt minT, ∃ r, g.timeRespectingPaths u none start stop = .ok r) ∧
      res = (g.nodesAt minT).flatMap (c13_rOf g start stop) := by
  refine foldlM_prefix_inv (R := (· ≠ ·)) _ (fun done res =>
    (∀ u ∈ done, ∃ r, g.timeRespectingPaths u none start stop = .ok r) ∧
      res = done.flatMap (c13_rOf g start stop)) ?_ _ [] [] res hnd ⟨nofun, rfl⟩ (c13_all_eq_foldlM .. ▸ h)
  rintro done u _ st' hfresh ⟨hok, rfl⟩ hstep
  unfold c13_allStep at hstep
  split at hstep
  · cases hstep
  · next r hr =>
    obtain rfl := Except.ok.inj hstep
    have hfst := c13_trp_key_fst hids hr
    refine ⟨fun u' hu' => (List.mem_append.mp hu').elim (hok u') fun h => List.mem_singleton.mp h ▸ ⟨r, hr⟩, ?_⟩
    rw [List.flatMap_append, List.flatMap_singleton, c13_rOf_eq hr]
    -- the keys already there start with an earlier root
    refine c13_merge_eq r _ (c12_nodup g u none start stop r hr).2 hfst fun kp hkp e he heq => ?_
    obtain ⟨u', hu', he⟩ := List.mem_flatMap.mp he
    obtain ⟨r', hr'⟩ := hok u' hu'
    rw [c13_rOf_eq hr'] at he
    exact hfresh u' hu' ((c13_trp_key_fst hids hr' e he).symm.trans ((congrArg Prod.fst heq).trans (hfst kp hkp)))

theorem c13_flatMap_keys_nodup (f : Node → c13_Res) (nodes : List Node) (hnd : nodes.Nodup)
    (hf : ∀ u ∈ nodes, ((f u).map (·.1)).Nodup ∧ ∀ kp ∈ f u, kp.1.1 = u) :
    ((nodes.flatMap f).map (·.1)).Nodup := by
  rw [List.Nodup, List.pairwise_map, List.pairwise_flatMap]
  refine ⟨fun u hu => List.pairwise_map.mp (hf u hu).1, hnd.imp_of_mem fun {u u'} hu hu' hne x hx y hy heq => ?_⟩
  exact hne (((hf u hu).2 x hx).symm.trans ((congrArg Prod.fst heq).trans ((hf u' hu').2 y hy)))

/-- **C13 (all pairs).** For every root `u` the single-root call succeeds and each of its entries `kp` (whose key
    starts with `u`) is stored in `res` under the key `(u, kp.1.2)` with the value `kp.2`; every entry of `res`
    arises this way; and the keys of `res` are pairwise distinct (so "the entry under the key" is well defined). -/
theorem C13_all (g : Graph) (hids : g.ids.Pairwise (· < ·)) (start stop minT : Option Int) (res : c13_Res)
    (h : g.allTimeRespectingPaths start stop minT = .ok res) (hnd : (g.nodesAt minT).Nodup) :
    (∀ u ∈ g.nodesAt minT, ∃ r, g.timeRespectingPaths u none start stop = .ok r ∧
      ∀ kp ∈ r, kp.1.1 = u ∧ ((u, kp.1.2), kp.2) ∈ res) ∧
    (∀ e ∈ res, ∃ u ∈ g.nodesAt minT, ∃ r, g.timeRespectingPaths u none start stop = .ok r ∧
      ∃ kp ∈ r, e = ((u, kp.1.2), kp.2)) ∧
    (res.map (·.1)).Nodup := by
  obtain ⟨hok, rfl⟩ := C13_all_eq g hids start stop minT res h hnd
  -- an entry of the result for `u` is its own image `((u, kp.1.2), kp.2)`
  have hent : ∀ {u r}, g.timeRespectingPaths u none start stop = .ok r → ∀ kp ∈ r, ((u, kp.1.2), kp.2) = kp :=
    fun hr kp hkp => by rw [← c13_trp_key_fst hids hr kp hkp]
  refine ⟨fun u hu => ?_, fun e he => ?_, ?_⟩
  · obtain ⟨r, hr⟩ := hok u hu
    exact ⟨r, hr, fun kp hkp => ⟨c13_trp_key_fst hids hr kp hkp,
      List.mem_flatMap.mpr ⟨u, hu, by rw [c13_rOf_eq hr, hent hr kp hkp]; exact hkp⟩⟩⟩
  · obtain ⟨u, hu, he⟩ := List.mem_flatMap.mp he
    obtain ⟨r, hr⟩ := hok u hu
    rw [c13_rOf_eq hr] at he
    exact ⟨u, hu, r, hr, e, he, (hent hr e he).symm⟩
  · refine c13_flatMap_keys_nodup _ _ hnd fun u hu => ?_
    obtain ⟨r, hr⟩ := hok u hu
    rw [c13_rOf_eq hr]
    exact ⟨(c12_nodup g u none start stop r hr).2, c13_trp_key_fst hids hr⟩

/-- corollary: the all-pairs result is exact for the roots without self-loop in the window: under the keys
    `(u, ·)` are stored exactly the genuine time-respecting paths from `u`, each under its own key -/
theorem C13_all_exact (g : Graph) (hids : g.ids.Pairwise (· < ·)) (start stop minT : Option Int) (res : c13_Res)
    (h : g.allTimeRespectingPaths start stop minT = .ok res) (hnd : (g.nodesAt minT).Nodup)
    (u : Node) (hu : u ∈ g.nodesAt minT) (hun : g.hasNode u start = true)
    (hloop : ∀ t ∈ dagWindow g start stop, u ∉ g.neighbors u (some t)) (p : TPath) :
    (∃ e ∈ res, e.1.1 = u ∧ p ∈ e.2) ↔ ValidTRP g u none (dagWindow g start stop) p := by
  constructor
  · rintro ⟨e, he, hk, hm⟩
    rw [← hk]
    exact (C12_all_sound g hids start stop minT res h e he p hm).1
  · intro hp
    obtain ⟨h1, _, _⟩ := C13_all g hids start stop minT res h hnd
    obtain ⟨r, hr, hall⟩ := h1 u hu
    obtain ⟨kp, hkp, _, hm⟩ := C13_complete_noloop g hids u none start stop r hr hun hloop p hp
    exact ⟨((u, kp.1.2), kp.2), (hall kp hkp).2, rfl, hm⟩

/-- undirected accumulative graph with the loop 1–1 from instant 0 and 1–2 from instant 1 -/
def c13G : Graph :=
  (((Graph.empty false false).addInteraction 1 1 (some 0) none).1.addInteraction 1 2 (some 1) none).1

theorem c13G_ids : c13G.ids = [0, 1] := List.mergeSort_of_pairwise (by decide)

theorem c13G_window : dagWindow c13G none none = [0, 1] := by
  unfold dagWindow winLo winHi
  rw [c13G_ids]
  decide

theorem c13G_window0 : dagWindow c13G (some 0) (some 0) = [0] := by
  unfold dagWindow winLo winHi
  rw [c13G_ids]
  decide

local instance c13_decGroup : DecidableEq ((Node × Node) × List TPath) := inferInstance

theorem c13G_result : c13G.timeRespectingPaths 1 none none none =
    .ok [((1, 1), [[(1, 1, 1)]]), ((1, 2), [[(1, 2, 1)]])] := by
  unfold Graph.timeRespectingPaths Graph.temporalDag
  rw [c13G_ids]
  rfl

theorem c13G_result0 : c13G.timeRespectingPaths 1 none (some 0) (some 0) = .ok [] := by
  unfold Graph.timeRespectingPaths Graph.temporalDag
  rw [c13G_ids]
  rfl

/-- **D21 witness.** On the graph with the loop 1–1 at instant 0 and 1–2 at instant 1 (snapshot ids strictly
    increasing, 1 a node), the hop list `[(1,1,0)]` is a genuine time-respecting path from the root 1 but it is
    not returned, neither for the whole window (where `[(1,1,1)]` and `[(1,2,1)]` are) nor for the window `[0,0]`
    (where nothing is): completeness fails for a first hop `(u,u,t)`. -/
theorem C13_D21_witness :
    c13G.ids.Pairwise (· < ·) ∧ c13G.hasNode 1 none = true ∧ c13G.hasNode 1 (some 0) = true ∧
    ValidTRP c13G 1 none (dagWindow c13G none none) [(1, 1, 0)] ∧
    (∃ res, c13G.timeRespectingPaths 1 none none none = .ok res ∧ ¬ ∃ kp ∈ res, [(1, 1, 0)] ∈ kp.2) ∧
    ValidTRP c13G 1 none (dagWindow c13G (some 0) (some 0)) [(1, 1, 0)] ∧
    c13G.timeRespectingPaths 1 none (some 0) (some 0) = .ok [] := by
  have hv : ∀ W, 0 ∈ W → ValidTRP c13G 1 none W [(1, 1, 0)] :=
    fun _ hW => validTRP_single rfl ⟨hW, by decide⟩ nofun
  exact ⟨by rw [c13G_ids]; decide, by decide, by decide, hv _ (by rw [c13G_window]; decide),
    ⟨_, c13G_result, by decide⟩, hv _ (by rw [c13G_window0]; decide), c13G_result0⟩

/-- the same at the level of the path search: in a DAG with the edge `1@0 → 1@0` the only path from `1@0` to itself
    is the one-node path, which has no hop -/
theorem C13_D21_witness_dag :
    simplePaths ⟨[((1, 0), (1, 0))], [(1, 0)], [(1, 0)], [(1, 0)]⟩ (1, 0) (1, 0) = [[(1, 0)]] ∧
    hopsOf [((1 : Node), (0 : Int))] = [] := by decide

/-- the hypothesis `hasNode u start` of `C13_complete` is needed too: on `c15G` (1–2 from instant 0, 2–3 from
    instant 1) the node 3 has no interaction at `start = 0`, so nothing is returned for the window `[0,1]`, although
    `[(3,2,1)]` is a genuine time-respecting path from 3 inside that window -/
theorem C13_start_witness :
    c15G.hasNode 3 (some 0) = false ∧
    ValidTRP c15G 3 none (dagWindow c15G (some 0) (some 1)) [(3, 2, 1)] ∧
    c15G.timeRespectingPaths 3 none (some 0) (some 1) = .ok [] := by
  have hw : dagWindow c15G (some 0) (some 1) = [0, 1] := by
    unfold dagWindow winLo winHi
    rw [c15G_ids]
    decide
  exact ⟨by decide, validTRP_single rfl ⟨by rw [hw]; decide, by decide⟩ nofun,
    C13_absent_root c15G 3 none (some 0) (some 1) (by decide)⟩

/-! ### sampling

  `Graph.timeRespectingPathsSample` models the `sample < 1` branch of `time_respecting_paths`: numpy's draw is a
  parameter (`perm`, any list of indices), so the theorems hold for every draw, every `sample = num/den` and every
  graph; only the corollary `C12_sample_sound` needs the hypothesis on the snapshot ids, that of `C12_sound`. -/

/-- the sampled call fails exactly when the full call fails (both only through `temporal_dag`'s window check) -/
theorem C13_sample_error (g : Graph) (u : Node) (v : Option Node) (start stop : Option Int)
    (num den : Nat) (perm : List Nat) (e : Err) :
    g.timeRespectingPathsSample u v start stop num den perm = .error e ↔
      g.timeRespectingPaths u v start stop = .error e := by
  unfold Graph.timeRespectingPathsSample Graph.timeRespectingPaths
  split
  · exact Iff.rfl
  · split
    · exact Iff.rfl
    · exact ⟨nofun, nofun⟩

theorem trpSample_ok {g : Graph} {u : Node} {v : Option Node} {start stop : Option Int} {num den : Nat}
    {perm : List Nat} {res : c13_Res}
    (h : g.timeRespectingPathsSample u v start stop num den perm = .ok res) :
    (g.hasNode u start = false ∧ res = []) ∨
      ∃ d chosen, g.hasNode u start = true ∧ g.temporalDag u v start stop = .ok d ∧
        (num = 0 → chosen = []) ∧ (∀ x ∈ chosen, x ∈ d.pairs) ∧ res = groupPaths (keptPaths d chosen) := by
  unfold Graph.timeRespectingPathsSample at h
  cases hu : g.hasNode u start <;> simp only [hu, Bool.not_false, Bool.not_true, if_true, Bool.false_eq_true,
    if_false] at h
  · exact Or.inl ⟨rfl, (Except.ok.inj h).symm⟩
  · split at h
    · cases h
    · next d hd =>
      refine Or.inr ⟨d, _, rfl, hd, ?_, ?_, (Except.ok.inj h).symm⟩
      · rintro rfl
        simp
      · intro x hx
        obtain ⟨i, _, hi⟩ := List.mem_filterMap.mp hx
        exact List.mem_of_getElem? hi

/-- **C13 (sampling).** Whatever pairs `numpy.random.choice` draws, every path of the sampled result is a path of the
    full (`sample = 1`) result, filed under the same key. -/
theorem C13_sample_subset (g : Graph) (u : Node) (v : Option Node) (start stop : Option Int)
    (num den : Nat) (perm : List Nat) (res' res : List ((Node × Node) × List TPath))
    (hs : g.timeRespectingPathsSample u v start stop num den perm = .ok res')
    (hf : g.timeRespectingPaths u v start stop = .ok res) :
    ∀ kp' ∈ res', ∀ p ∈ kp'.2, ∃ kp ∈ res, kp.1 = kp'.1 ∧ p ∈ kp.2 := by
  rcases trpSample_ok hs with ⟨_, rfl⟩ | ⟨d, chosen, hu, hd, _, hsub, rfl⟩
  · exact nofun
  · rcases trp_ok hf with ⟨hu', _⟩ | ⟨d', hd', rfl⟩
    · rw [hu] at hu'
      cases hu'
    · obtain rfl : d = d' := Except.ok.inj (hd.symm.trans hd')
      intro kp' hkp' p hp
      obtain ⟨hp, hkey⟩ := mem_of_mem_groupPaths hkp' hp
      obtain ⟨⟨st, hst, hq⟩, hpp⟩ := mem_keptPaths.mp hp
      obtain ⟨kp, hkp, hk, hpk⟩ := groupPaths_mem (mem_keptPaths.mpr ⟨⟨st, hsub st hst, hq⟩, hpp⟩)
      exact ⟨kp, hkp, hk.trans hkey, hpk⟩

/-- corollary: the sampled paths are genuine time-respecting paths (C12 holds for `sample < 1` as well) -/
theorem C12_sample_sound (g : Graph) (hids : g.ids.Pairwise (· < ·)) (u : Node) (v : Option Node)
    (start stop : Option Int) (num den : Nat) (perm : List Nat) (res' : List ((Node × Node) × List TPath))
    (hs : g.timeRespectingPathsSample u v start stop num den perm = .ok res') :
    ∀ kp' ∈ res', ∀ p ∈ kp'.2, ValidTRP g u v (dagWindow g start stop) p ∧ kp'.1 = pathKey p := by
  cases hf : g.timeRespectingPaths u v start stop with
  | error e =>
    have := (C13_sample_error g u v start stop num den perm e).mpr hf
    rw [this] at hs; cases hs
  | ok res =>
    intro kp' hkp' p hp
    obtain ⟨kp, hkp, hk, hpk⟩ := C13_sample_subset g u v start stop num den perm res' res hs hf kp' hkp' p hp
    obtain ⟨hv, hkey⟩ := C12_sound g hids u v start stop res hf kp hkp p hpk
    exact ⟨hv, hk.symm.trans hkey⟩

/-- `sample = 0` returns no path at all -/
theorem C13_sample_none (g : Graph) (u : Node) (v : Option Node) (start stop : Option Int) (den : Nat)
    (perm : List Nat) (res' : List ((Node × Node) × List TPath))
    (hs : g.timeRespectingPathsSample u v start stop 0 den perm = .ok res') : res' = [] := by
  rcases trpSample_ok hs with ⟨_, rfl⟩ | ⟨d, chosen, _, _, h0, _, rfl⟩
  · rfl
  · rw [h0 rfl]
    rfl

/-- undirected graph with 1–2 and 1–3 at instant 0; the draw below returns a strict, non-empty part of the full result -/
def c13sG : Graph :=
  (((Graph.empty false true).addInteraction 1 2 (some 0) none).1.addInteraction 1 3 (some 0) none).1

theorem c13sG_ids : c13sG.ids = [0] := List.mergeSort_of_pairwise (by decide)

local instance c13s_decGroup : DecidableEq ((Node × Node) × List TPath) := inferInstance

theorem c13sG_full : c13sG.timeRespectingPaths 1 none none none =
    .ok [((1, 2), [[(1, 2, 0)]]), ((1, 3), [[(1, 3, 0)]])] := by
  unfold Graph.timeRespectingPaths Graph.temporalDag
  rw [c13sG_ids]
  rfl

/-- `sample = 1/2`, numpy's permutation `[1, 0]`: one of the two source-target pairs is enumerated -/
theorem c13sG_sampled : c13sG.timeRespectingPathsSample 1 none none none 1 2 [1, 0] =
    .ok [((1, 3), [[(1, 3, 0)]])] := by
  unfold Graph.timeRespectingPathsSample Graph.temporalDag
  rw [c13sG_ids]
  rfl

end Dynetx
