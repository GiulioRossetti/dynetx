import DynetxProofs.C18Text
/-
  `int(str(n)) = n`: the decimal strings the writers print (Text.lean) are converted back by the readers (IO.lean).  The
  round trip of the digits is core's `Nat.ofDigitChars_ten_toDigits`; what is proved here is the sign and the stripping.
-/

namespace Dynetx

open List

theorem digitChar_eq : ∀ k, k < 10 → digitChar k = k.digitChar := by decide

theorem natDigits_eq (n : Nat) : natDigits n = Nat.toDigits 10 n := by
  fun_induction natDigits n with
  | case1 n h => rw [Nat.toDigits_of_lt_base h, digitChar_eq n h]
  | case2 n h ih =>
    rw [Nat.toDigits_of_base_le (by decide) (Nat.le_of_not_lt h), ih, digitChar_eq _ (Nat.mod_lt n (by decide))]

theorem txt_isDigit_not_ws (c : Char) (h : c.isDigit = true) : isWs c = false := by
  cases hw : isWs c with
  | false => rfl
  | true =>
    simp only [isWs, Bool.or_eq_true, beq_iff_eq] at hw
    rcases hw with ((((rfl | rfl) | rfl) | rfl) | rfl) | rfl <;> cases h

theorem txt_natDigits_ne_nil (n : Nat) : natDigits n ≠ [] :=
  natDigits_eq n ▸ Nat.toDigits_ne_nil

theorem txt_natDigits_isDigit (n : Nat) : ∀ c ∈ natDigits n, c.isDigit = true :=
  natDigits_eq n ▸ fun _ => Nat.isDigit_of_mem_toDigits (by decide) (by decide)

theorem natOfDigits_digits {l : List Char} (hne : l ≠ []) (hd : ∀ c ∈ l, c.isDigit = true) :
    natOfDigits l = some (Nat.ofDigitChars 10 l 0) := by
  obtain ⟨c, cs, rfl⟩ := exists_cons_of_ne_nil hne
  change foldl _ (some 0) (c :: cs) = _
  generalize 0 = a, c :: cs = l at hd ⊢
  induction l generalizing a with
  | nil => rfl
  | cons c cs ih =>
    rw [foldl_cons, Nat.ofDigitChars_cons, ← ih _ fun c hc => hd c (mem_cons_of_mem _ hc)]
    simp only [digitVal, hd c mem_cons_self, if_true, Nat.mul_comm]

theorem txt_natOfDigits_natDigits (n : Nat) : natOfDigits (natDigits n) = some n := by
  rw [natOfDigits_digits (txt_natDigits_ne_nil n) (txt_natDigits_isDigit n), natDigits_eq, Nat.ofDigitChars_ten_toDigits]

theorem txt_natDigits_not_ws (n : Nat) : ∀ c ∈ natDigits n, isWs c = false :=
  fun c hc => txt_isDigit_not_ws c (txt_natDigits_isDigit n c hc)

theorem txt_intDigits_ne_nil (z : Int) : intDigits z ≠ [] := by
  cases z with
  | ofNat n => exact txt_natDigits_ne_nil n
  | negSucc n => simp [intDigits]

theorem txt_intDigits_mem (z : Int) (c : Char) (h : c ∈ intDigits z) : c.isDigit = true ∨ c = '-' := by
  cases z with
  | ofNat n => exact Or.inl (txt_natDigits_isDigit n c h)
  | negSucc n => exact (mem_cons.mp h).symm.imp_left (txt_natDigits_isDigit _ c)

theorem txt_intDigits_not_ws (z : Int) : ∀ c ∈ intDigits z, isWs c = false := by
  intro c hc
  rcases txt_intDigits_mem z c hc with h | rfl
  · exact txt_isDigit_not_ws c h
  · rfl

theorem txt_intOf_digits (l : List Char) (hd : ∀ c ∈ l, c.isDigit = true) (n : Nat)
    (hn : natOfDigits l = some n) : intOf l = some (n : Int) := by
  unfold intOf
  rw [txt_strip_clean l (fun c hc => txt_isDigit_not_ws c (hd c hc))]
  split
  · next ds => exact absurd (hd '-' (by simp)) (by decide)
  · next ds => exact absurd (hd '+' (by simp)) (by decide)
  · rw [hn]; rfl

theorem txt_intOf_neg (l : List Char) (hd : ∀ c ∈ l, c.isDigit = true) (n : Nat)
    (hn : natOfDigits l = some n) : intOf ('-' :: l) = some (- (n : Int)) := by
  unfold intOf
  rw [txt_strip_clean ('-' :: l) fun c hc =>
    (mem_cons.mp hc).elim (· ▸ rfl) fun hc => txt_isDigit_not_ws c (hd c hc)]
  simp only [hn]
  rfl

theorem txt_intOf_natDigits (n : Nat) : intOf (natDigits n) = some (n : Int) :=
  txt_intOf_digits _ (txt_natDigits_isDigit n) n (txt_natOfDigits_natDigits n)

/-- **`int(str(n)) = n`** for node ids -/
theorem Text_nat_roundtrip (n : Nat) : nodeOf (natDigits n) = some n := by
  unfold nodeOf
  rw [txt_intOf_natDigits]

/-- **`int(str(z)) = z`** for timestamps -/
theorem Text_int_roundtrip (z : Int) : intOf (intDigits z) = some z := by
  cases z with
  | ofNat n => exact txt_intOf_natDigits n
  | negSucc n =>
    simp only [intDigits]
    rw [txt_intOf_neg _ (txt_natDigits_isDigit _) _ (txt_natOfDigits_natDigits _)]
    rfl

theorem txt_natDigits_nomem {c : Char} (hc : c.isDigit = false) (n : Nat) : c ∉ natDigits n :=
  fun h => Bool.noConfusion (hc ▸ txt_natDigits_isDigit n c h)

theorem txt_intDigits_nomem {c : Char} (hc : c.isDigit = false) (hm : c ≠ '-') (z : Int) : c ∉ intDigits z :=
  fun h => (txt_intDigits_mem z c h).elim (fun h => Bool.noConfusion (hc ▸ h)) hm

theorem Text_digits_clean (c : Char) (hc : c.isDigit = false) (hm : c ≠ '-') (n : Nat) (z : Int) :
    c ∉ natDigits n ∧ c ∉ intDigits z ∧
    (∀ x ∈ natDigits n, isWs x = false) ∧ (∀ x ∈ intDigits z, isWs x = false) :=
  ⟨txt_natDigits_nomem hc n, txt_intDigits_nomem hc hm z, txt_natDigits_not_ws n, txt_intDigits_not_ws z⟩

end Dynetx
