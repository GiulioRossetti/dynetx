import DynetxProofs.C20Hier
/-
  C20 for label PROFILES (`labels` with several attributes, `profile_size ≥ 1`): "for each alpha and label profile,
  a score in [-1,1] for exactly the nodes present at start".  A call of this model is a call of the full-featured one
  with static labels and no hierarchies (`C20H_static`), so what holds of every such call holds here.
-/
namespace Dynetx

theorem c20p_mem_combinations {α : Type} (k : Nat) (l c : List α) :
    c ∈ combinations k l ↔ c.Sublist l ∧ c.length = k := by
  fun_induction combinations k l generalizing c with
  | case1 l =>
    rw [List.mem_singleton, ← List.length_eq_zero_iff]
    exact ⟨fun h => ⟨List.length_eq_zero_iff.1 h ▸ List.nil_sublist l, h⟩, And.right⟩
  | case2 k =>
    simp only [List.not_mem_nil, List.sublist_nil, false_iff, not_and]
    rintro rfl
    exact (Nat.succ_ne_zero k).symm
  | case3 k x xs ih1 ih2 =>
    simp only [List.mem_append, List.mem_map, ih1, ih2, List.sublist_cons_iff]
    constructor
    · rintro (⟨c', ⟨hs, hl⟩, rfl⟩ | ⟨hs, hl⟩)
      · exact ⟨Or.inr ⟨c', rfl, hs⟩, congrArg (· + 1) hl⟩
      · exact ⟨Or.inl hs, hl⟩
    · rintro ⟨hs | ⟨r, rfl, hs⟩, hl⟩
      · exact Or.inr ⟨hs, hl⟩
      · exact Or.inl ⟨r, ⟨hs, Nat.succ.inj hl⟩, rfl⟩

theorem C20P_profiles (labels : List Nat) (profileSize : Nat) (pr : List Nat) :
    pr ∈ profilesOf labels profileSize ↔ pr.Sublist labels ∧ 1 ≤ pr.length ∧ pr.length ≤ profileSize := by
  unfold profilesOf
  simp only [List.mem_flatMap, List.mem_range, c20p_mem_combinations]
  constructor
  · rintro ⟨i, hi, hs, hl⟩; exact ⟨hs, hl ▸ Nat.succ_pos i, hl ▸ hi⟩
  · rintro ⟨hs, h1, h2⟩
    obtain ⟨i, hi⟩ := Nat.exists_eq_add_one.2 h1
    exact ⟨i, (hi ▸ h2 : i + 1 ≤ profileSize), hs, hi⟩

theorem profileFrequency_single (g : Graph) (tab : LabelTable) (l : Nat) (u : Node) (nodes : List Node)
    (td : List (Node × Nat)) : profileFrequency g tab [l] u nodes td = labelFrequencyL g (tab l) u nodes td :=
  Rat.one_mul _

/-- **C20 (bound, profiles).** -/
theorem C20P_bound (g : Graph) (tab : LabelTable) (pr : List Nat) (sp : List ((Node × Node) × List TPath))
    (ptype alpha : Nat) (u : Node) :
    -1 ≤ nodeScoreP g tab pr sp ptype alpha u ∧ nodeScoreP g tab pr sp ptype alpha u ≤ 1 :=
  C20H_bound g _ _ (fun _ _ h => by cases h) pr sp ptype alpha 0 u _ (nodeScoreH_static g tab pr sp ptype alpha 0 u)

theorem profileFrequency_one (g : Graph) (tab : LabelTable) (pr : List Nat) (u : Node) (nodes : List Node)
    (td : List (Node × Nat)) (h : ∀ l ∈ pr, labelFrequencyL g (tab l) u nodes td = 1) :
    profileFrequency g tab pr u nodes td = 1 :=
  -- every factor is 1: the fold never leaves its start value
  (List.foldl_ext _ _ 1 fun s l hl => by rw [h l hl, Rat.mul_one]).trans (List.foldl_fixed' (fun _ => rfl) pr)

/-- **C20 (all equal, profiles).**  The hypotheses of `C20_all_equal`, for every label of the profile. -/
theorem C20P_all_equal (g : Graph) (tab : LabelTable) (pr : List Nat) (sp : List ((Node × Node) × List TPath))
    (ptype alpha : Nat) (u : Node)
    (hn : ∀ l ∈ pr, ∀ v ∈ (tDistances sp ptype u).map (·.1), tab l v = tab l u)
    (hnb : ∀ l ∈ pr, ∀ v ∈ (tDistances sp ptype u).map (·.1), ∀ t, ∀ x ∈ g.neighbors v t, tab l x = tab l v) :
    nodeScoreP g tab pr sp ptype alpha u = if tDistances sp ptype u = [] then 0 else 1 := by
  rw [nodeScoreP_eq]
  exact scoreOf_one _ _ _ (pow_weight_pos alpha) fun d hd => profileFrequency_one g tab pr u _ _ fun l hl =>
    labelFrequencyL_all_equal g (tab l) u _ _ (nodesAtRank_ne_nil hd)
      (fun v hv => hn l hl v (mem_nodesAtRank hv)) (fun v hv => hnb l hl v (mem_nodesAtRank hv))

theorem C20H_all_equal_static (g : Graph) (tab : LabelTable) (pr : List Nat) (sp : List ((Node × Node) × List TPath))
    (ptype alpha : Nat) (start : Int) (u : Node)
    (hn : ∀ l ∈ pr, ∀ v ∈ (tDistances sp ptype u).map (·.1), tab l v = tab l u)
    (hnb : ∀ l ∈ pr, ∀ v ∈ (tDistances sp ptype u).map (·.1), ∀ t, ∀ x ∈ g.neighbors v t, tab l x = tab l v) :
    nodeScoreH g (fun l n => .static (tab l n)) (fun _ => none) pr sp ptype alpha start u
      = .ok (if tDistances sp ptype u = [] then 0 else 1) := by
  rw [nodeScoreH_static, C20P_all_equal g tab pr sp ptype alpha u hn hnb]

/-- the documented argument errors -/
theorem C20P_errors (dg : Graph) (tab : LabelTable) (start delta : Int) (alphas labels : List Nat)
    (profileSize ptype : Nat) (h : profileSize > labels.length ∨ alphas = [] ∨ labels = []) :
    dg.deltaConformityP tab start delta alphas labels profileSize ptype = .error .value := by
  rw [deltaConformityP_eq]
  by_cases hn : profileSize > labels.length
  · exact if_pos hn
  · refine (if_neg hn).trans (if_pos ?_)
    rcases h with h | rfl | rfl
    · exact absurd h hn
    · rfl
    · exact Bool.or_true _

/-- **C20 (shape and bound of the result, profiles).** -/
theorem C20P_result (dg : Graph) (tab : LabelTable) (start delta : Int) (alphas labels : List Nat)
    (profileSize ptype : Nat) (l : List (Nat × List (List Nat × List (Node × Rat))))
    (h : dg.deltaConformityP tab start delta alphas labels profileSize ptype = .ok (some l)) :
    l.map (·.1) = alphas ∧
    (∀ e ∈ l, e.2.map (·.1) = profilesOf labels profileSize) ∧
    (∃ g, dg.timeSlice start (some (start + delta)) = .ok g ∧
      ∀ e ∈ l, ∀ pe ∈ e.2, pe.2.map (·.1) = g.nodesAt (some start)) ∧
    (∀ e ∈ l, ∀ pe ∈ e.2, ∀ nv ∈ pe.2, -1 ≤ nv.2 ∧ nv.2 ≤ 1) :=
  C20H_result dg _ _ (fun _ _ h => by cases h) start delta alphas labels profileSize ptype l (C20H_static .. ▸ h)

theorem C20P_nodeScore_single (g : Graph) (tab : LabelTable) (l : Nat) (h : tab l = g.label)
    (sp : List ((Node × Node) × List TPath)) (ptype alpha : Nat) (u : Node) :
    nodeScoreP g tab [l] sp ptype alpha u = nodeScore g sp ptype alpha u := by
  rw [nodeScoreP_eq, nodeScore_eq_W, nodeScoreW_eq]
  exact scoreOf_congr _ _ fun d _ => by rw [profileFrequency_single, h]

theorem c20p_profilesOf_single (l : Nat) : profilesOf [l] 1 = [[l]] := rfl

/-- **C20 (consistency of the two models).**  One label whose table is the node attribute of the slice: the single-label
    model, every score list filed under the single profile `[l]` -/
theorem C20P_single (dg : Graph) (tab : LabelTable) (l : Nat) (start delta : Int) (alphas : List Nat) (ptype : Nat)
    (halpha : alphas ≠ [])
    (htab : ∀ g, dg.timeSlice start (some (start + delta)) = .ok g → tab l = g.label) :
    dg.deltaConformityP tab start delta alphas [l] 1 ptype =
      (dg.deltaConformity start delta alphas ptype).map
        (fun r => r.map (fun res => res.map (fun ar => (ar.1, [([l], ar.2)])))) := by
  have h2 : ¬ ((alphas.length < 1 || [l].length < 1) = true) := by
    cases alphas with
    | nil => exact absurd rfl halpha
    | cons a rest => exact Bool.false_ne_true
  have hid : ∀ {α : Type} (X : Except Err α), X = X.map id := fun X => (congrFun Except.map_id X).symm
  rw [deltaConformityP_eq, deltaConformity_eq, if_neg (c := 1 > [l].length) (Nat.lt_irrefl 1), if_neg h2]
  -- both sides run the window of `dg` itself: `confWindow_transport` with the identity on graphs and path tables
  -- (`X = X.map id`); only the bodies differ, by `C20P_nodeScore_single` on the slice
  refine confWindow_transport id id (Except.map _) (fun _ => rfl) rfl dg start delta _ _ (hid _) (fun _ => rfl) (fun _ _ _ => hid _)
    fun g hs _ _ sp _ => ?_
  simp only [c20p_profilesOf_single, List.map_cons, List.map_nil, C20P_nodeScore_single g tab l (htab g hs),
    Except.map, Option.map_some, List.map_map, Function.comp_def, id]

end Dynetx
