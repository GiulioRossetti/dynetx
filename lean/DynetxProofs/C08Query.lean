import DynetxProofs.Properties
import DynetxProofs.Q2
/-
  C08, query half: on a graph created with edge_removal=False every query of C02 follows the accumulative presence of
  `C08_presence` (first accepted add ≤ t ≤ largest accepted t of the graph), and without `t` every pair that was ever
  accepted (`C08_flat`).  The C02 theorems are used in their `q1_Keys` form: `WF` holds in both modes, but
  `WF.hasInteraction_iff` (presence = the stored timeline) needs `removal = true`.
-/
namespace Dynetx

/-- right-hand side of `C08_presence` for `some x` (verbatim), of the flattened view (`everLogged`) for
    `none`.  A log entry is `(u, v, t, t1)`, pair and accepted span (`Accepted`, Spec.lean): `log.map (·.2.2.1)` lists the
    `t` of the accepted calls -/
def c08q_accAt (d : Bool) (log : List Accepted) (a b : Node) : Option Int → Prop
  | none => everLogged d log a b
  | some x => ∃ t0 m, firstLogged d log a b = some t0 ∧ maxList (log.map (·.2.2.1)) = some m ∧ t0 ≤ x ∧ x ≤ m

theorem c08q_accAt_some (d : Bool) (log : List Accepted) (a b : Node) (x : Int) :
    c08q_accAt d log a b (some x) ↔
      ∃ t0 m, firstLogged d log a b = some t0 ∧ maxList (log.map (·.2.2.1)) = some m ∧ t0 ≤ x ∧ x ≤ m :=
  Iff.rfl

theorem c08q_accAt_none (d : Bool) (log : List Accepted) (a b : Node) :
    c08q_accAt d log a b none ↔ everLogged d log a b := Iff.rfl

theorem c08q_accAt_symm (log : List Accepted) (a b : Node) (t : Option Int) :
    c08q_accAt false log a b t ↔ c08q_accAt false log b a t := by
  have hk : sameKey false a b b a = true := (sameKey_iff ..).mpr (.inr ⟨rfl, rfl, rfl⟩)
  cases t with
  | none => exact ⟨everLogged_congr hk, everLogged_congr (sameKey_symm_of hk)⟩
  | some x => simp only [c08q_accAt, firstLogged_congr hk]

theorem c08q_has_iff (d : Bool) (ops : List Op) (a b : Node) (t : Option Int) :
    ((Graph.empty d false).run ops).1.hasInteraction a b t = true ↔
      c08q_accAt d ((Graph.empty d false).runLog ops) a b t := by
  cases t with
  | some x => exact C08_presence d ops a b x
  | none =>
    have := (accInv_history d ops).flat a b
    rwa [run_directed] at this

/-- C08 (flattened presence): `has_interaction(a,b)` without `t` holds iff an add of the pair was accepted -/
theorem C08_flat (d : Bool) (ops : List Op) (a b : Node) :
    ((Graph.empty d false).run ops).1.hasInteraction a b none = true ↔
      everLogged d ((Graph.empty d false).runLog ops) a b :=
  c08q_has_iff d ops a b none

/-- C08 (neighbors; `successors` on DynDiGraph): lists, without repetition, the `v` whose pair with `u` (`firstLogged d`:
    the arc `u→v` on DynDiGraph, either orientation on DynGraph) is present at `t` in the accumulative sense — whatever
    vanishing times or repeated adds were supplied. -/
theorem C08_neighbors (d : Bool) (ops : List Op) (u v : Node) (t : Int) :
    let g := ((Graph.empty d false).run ops).1
    let log := (Graph.empty d false).runLog ops
    (v ∈ g.neighbors u (some t) ↔
      ∃ t0 m, firstLogged d log u v = some t0 ∧ maxList (log.map (·.2.2.1)) = some m ∧ t0 ≤ t ∧ t ≤ m) ∧
    (g.neighbors u (some t)).Nodup :=
  ⟨(C02_neighbors _ u v _).trans (C08_presence ..), q1_neighbors_nodup (q1_run_keys d false ops) u _⟩

/-- C08 (predecessors, DynDiGraph): the `u` whose arc `u→v` is present at `t`, without repetition -/
theorem C08_predecessors (ops : List Op) (u v : Node) (t : Int) :
    let g := ((Graph.empty true false).run ops).1
    let log := (Graph.empty true false).runLog ops
    (u ∈ g.predecessors v (some t) ↔
      ∃ t0 m, firstLogged true log u v = some t0 ∧ maxList (log.map (·.2.2.1)) = some m ∧ t0 ≤ t ∧ t ≤ m) ∧
    (g.predecessors v (some t)).Nodup :=
  ⟨(C02_predecessors _ (run_directed _ ops) v u _).trans (C08_presence ..),
    q1_predecessors_nodup (q1_run_keys true false ops) v _⟩

/-- C08 (nodes): the `n` for which some pair containing `n` is present at `t`, without repetition -/
theorem C08_nodesAt (d : Bool) (ops : List Op) (n : Node) (t : Int) :
    let g := ((Graph.empty d false).run ops).1
    let log := (Graph.empty d false).runLog ops
    (n ∈ g.nodesAt (some t) ↔
      ∃ k, (∃ t0 m, firstLogged d log n k = some t0 ∧ maxList (log.map (·.2.2.1)) = some m ∧ t0 ≤ t ∧ t ≤ m) ∨
           (∃ t0 m, firstLogged d log k n = some t0 ∧ maxList (log.map (·.2.2.1)) = some m ∧ t0 ≤ t ∧ t ≤ m)) ∧
    (g.nodesAt (some t)).Nodup := by
  simp only [← C08_presence]
  exact ⟨C02_nodesAt_presence (q1_run_nodeInv d false ops) n t, C02_nodesAt_nodup (q1_run_nodeInv d false ops) _⟩

theorem C08_hasNode (d : Bool) (ops : List Op) (n : Node) (t : Int) :
    let g := ((Graph.empty d false).run ops).1
    let log := (Graph.empty d false).runLog ops
    g.hasNode n (some t) = true ↔
      ∃ k, (∃ t0 m, firstLogged d log n k = some t0 ∧ maxList (log.map (·.2.2.1)) = some m ∧ t0 ≤ t ∧ t ≤ m) ∨
           (∃ t0 m, firstLogged d log k n = some t0 ∧ maxList (log.map (·.2.2.1)) = some m ∧ t0 ≤ t ∧ t ≤ m) := by
  simp only [← C08_presence]
  exact C02_hasNode_presence (q1_run_nodeInv d false ops) n t

/-- C08 (degree): the number of distinct `k` whose pair with `n` is present at `t` (DynGraph; `n` itself counts once
    when the loop `n–n` is present, known finding D14), resp. of distinct out-arcs plus distinct in-arcs (DynDiGraph),
    for whatever duplicate-free lists `lo`, `li` enumerate them (`C08_neighbors` / `C08_predecessors` give such lists). -/
theorem C08_degree (d : Bool) (ops : List Op) (n : Node) (t : Int) :
    let g := ((Graph.empty d false).run ops).1
    let log := (Graph.empty d false).runLog ops
    ∀ lo li : List Node, lo.Nodup → li.Nodup →
      (∀ k, k ∈ lo ↔
        ∃ t0 m, firstLogged d log n k = some t0 ∧ maxList (log.map (·.2.2.1)) = some m ∧ t0 ≤ t ∧ t ≤ m) →
      (∀ k, k ∈ li ↔
        ∃ t0 m, firstLogged d log k n = some t0 ∧ maxList (log.map (·.2.2.1)) = some m ∧ t0 ≤ t ∧ t ≤ m) →
      g.degree n (some t) = if d then lo.length + li.length else lo.length := by
  simp only [← C08_presence]
  exact q1_degree_card (q1_run_keys d false ops) (run_directed _ ops) n _

/-- C08 (number_of_nodes): the number of distinct nodes that belong to a pair present at `t` -/
theorem C08_numberOfNodes (d : Bool) (ops : List Op) (t : Int) :
    let g := ((Graph.empty d false).run ops).1
    let log := (Graph.empty d false).runLog ops
    ∀ l : List Node, l.Nodup →
      (∀ n, n ∈ l ↔
        ∃ k, (∃ t0 m, firstLogged d log n k = some t0 ∧ maxList (log.map (·.2.2.1)) = some m ∧ t0 ≤ t ∧ t ≤ m) ∨
             (∃ t0 m, firstLogged d log k n = some t0 ∧ maxList (log.map (·.2.2.1)) = some m ∧ t0 ≤ t ∧ t ≤ m)) →
      g.numberOfNodes (some t) = l.length := by
  simp only [← C08_presence]
  exact C02_numberOfNodes_card (q1_run_nodeInv d false ops) t

/-- C08 (interactions, DynGraph): the pairs present at `t`, each in exactly one orientation and exactly once -/
theorem C08_interactions (ops : List Op) (u v : Node) (t : Int) :
    let g := ((Graph.empty false false).run ops).1
    let log := (Graph.empty false false).runLog ops
    (((u, v) ∈ g.interactions none (some t) ∨ (v, u) ∈ g.interactions none (some t)) ↔
      ∃ t0 m, firstLogged false log u v = some t0 ∧ maxList (log.map (·.2.2.1)) = some m ∧ t0 ≤ t ∧ t ≤ m) ∧
    (g.interactions none (some t)).Pairwise (fun p q => ¬ (sameKey false p.1 p.2 q.1 q.2 = true)) ∧
    (g.interactions none (some t)).Nodup :=
  have hn := q1_run_nodeInv false false ops
  have ho := q2_interactions_once (q1_run_keys false false ops) none hn.nodup (some t)
  ⟨(C02_interactions_iff hn.q2 (run_directed _ ops) _ u v).symm.trans (C08_presence ..), ho,
    q2_nodup_of_pairwise_key ho⟩

/-- C08 (out_interactions, DynDiGraph): the arcs present at `t`, each once -/
theorem C08_outInteractions (ops : List Op) (u v : Node) (t : Int) :
    let g := ((Graph.empty true false).run ops).1
    let log := (Graph.empty true false).runLog ops
    ((u, v) ∈ g.outInteractions none (some t) ↔
      ∃ t0 m, firstLogged true log u v = some t0 ∧ maxList (log.map (·.2.2.1)) = some m ∧ t0 ≤ t ∧ t ≤ m) ∧
    (g.outInteractions none (some t)).Nodup :=
  have hn := q1_run_nodeInv true false ops
  ⟨(C02_outInteractions_directed hn.q2 _ u v).trans (C08_presence ..),
    q2_out_nodup (q1_run_keys true false ops) none hn.nodup _⟩

/-- C08 (in_interactions, DynDiGraph): the same arcs, each once, collected at their targets -/
theorem C08_inInteractions (ops : List Op) (u v : Node) (t : Int) :
    let g := ((Graph.empty true false).run ops).1
    let log := (Graph.empty true false).runLog ops
    ((u, v) ∈ g.inInteractions none (some t) ↔
      ∃ t0 m, firstLogged true log u v = some t0 ∧ maxList (log.map (·.2.2.1)) = some m ∧ t0 ≤ t ∧ t ≤ m) ∧
    (g.inInteractions none (some t)).Nodup :=
  have hn := q1_run_nodeInv true false ops
  ⟨(C02_inInteractions_directed hn.q2 (run_directed _ ops) _ u v).trans (C08_presence ..),
    q2_in_nodup (q1_run_keys true false ops) none hn.nodup _⟩

/-- C08 (flattened view): with `t = None` every query reports the pairs for which some add was ever accepted
    (`everLogged`: unordered on DynGraph, ordered on DynDiGraph), without repetition. -/
theorem C08_queries_none (d : Bool) (ops : List Op) :
    let g := ((Graph.empty d false).run ops).1
    let log := (Graph.empty d false).runLog ops
    (∀ u v, g.hasInteraction u v none = true ↔ everLogged d log u v) ∧
    (∀ u v, v ∈ g.neighbors u none ↔ everLogged d log u v) ∧
    (d = true → ∀ u v, u ∈ g.predecessors v none ↔ everLogged d log u v) ∧
    (∀ n, n ∈ g.nodesAt none ↔ ∃ k, everLogged d log n k ∨ everLogged d log k n) ∧
    (∀ n, g.hasNode n none = true ↔ ∃ k, everLogged d log n k ∨ everLogged d log k n) ∧
    (∀ n (lo li : List Node), lo.Nodup → li.Nodup → (∀ k, k ∈ lo ↔ everLogged d log n k) →
      (∀ k, k ∈ li ↔ everLogged d log k n) →
      g.degree n none = if d then lo.length + li.length else lo.length) ∧
    (∀ l : List Node, l.Nodup → (∀ n, n ∈ l ↔ ∃ k, everLogged d log n k ∨ everLogged d log k n) →
      g.numberOfNodes none = l.length) ∧
    (∀ u v, (u, v) ∈ g.interactions none none → everLogged d log u v) ∧
    (d = false → ∀ u v,
      ((u, v) ∈ g.interactions none none ∨ (v, u) ∈ g.interactions none none) ↔ everLogged d log u v) ∧
    (∀ u v, (u, v) ∈ g.outInteractions none none ↔ everLogged d log u v) ∧
    (d = true → ∀ u v, (u, v) ∈ g.inInteractions none none ↔ everLogged d log u v) ∧
    (∀ n, (g.neighbors n none).Nodup ∧ (g.predecessors n none).Nodup) ∧
    (g.nodesAt none).Nodup ∧
    (g.interactions none none).Pairwise (fun p q => ¬ (sameKey false p.1 p.2 q.1 q.2 = true)) ∧
    (g.outInteractions none none).Nodup ∧ (g.inInteractions none none).Nodup := by
  intro g log
  have hk := q1_run_keys d false ops
  have hn := q1_run_nodeInv d false ops
  have hd : g.directed = d := run_directed _ ops
  have has : ∀ a b, g.hasInteraction a b none = true ↔ everLogged d log a b := C08_flat d ops
  have hnodes : ∀ n, n ∈ g.nodeList ↔ ∃ k, everLogged d log n k ∨ everLogged d log k n := fun n => by
    simp only [← has]
    exact q1_nodeList_iff hn (q1_run_nodesUsed d false ops) n
  exact ⟨has, fun u v => (C02_neighbors g u v none).trans (has u v),
    fun h u v => (C02_predecessors g (hd.trans h) v u none).trans (has u v), hnodes,
    fun n => (C02_hasNode_none g n).trans (hnodes n),
    fun n lo li hlo hli hmo hmi => q1_degree_card hk hd n none lo li hlo hli
      (fun m => (hmo m).trans (has n m).symm) fun m => (hmi m).trans (has m n).symm,
    fun l hl hm => length_eq_of_nodup hn.nodup hl fun n => (hnodes n).trans (hm n).symm,
    fun u v hm => (has u v).mp (C02_interactions_mem g none u v hm),
    fun h u v => (C02_interactions_iff hn.q2 (hd.trans h) none u v).symm.trans (has u v),
    fun u v => (C02_outInteractions_directed hn.q2 none u v).trans (has u v),
    fun h u v => (C02_inInteractions_directed hn.q2 (hd.trans h) none u v).trans (has u v),
    fun n => ⟨q1_neighbors_nodup hk n none, q1_predecessors_nodup hk n none⟩, hn.nodup,
    q2_interactions_once hk none hn.nodup none, q2_out_nodup hk none hn.nodup none,
    q2_in_nodup hk none hn.nodup none⟩

/-- C08 (all_neighbors): predecessors and successors on DynDiGraph, the partners on DynGraph -/
theorem C08_allNeighbors (d : Bool) (ops : List Op) (n k : Node) (t : Int) :
    let g := ((Graph.empty d false).run ops).1
    let log := (Graph.empty d false).runLog ops
    k ∈ g.allNeighbors n (some t) ↔
      ((∃ t0 m, firstLogged d log k n = some t0 ∧ maxList (log.map (·.2.2.1)) = some m ∧ t0 ≤ t ∧ t ≤ m) ∨
       (∃ t0 m, firstLogged d log n k = some t0 ∧ maxList (log.map (·.2.2.1)) = some m ∧ t0 ≤ t ∧ t ≤ m)) := by
  simp only [← C08_presence]
  exact C02_allNeighbors _ n k _

/-- C08 (non_neighbors): the other nodes with no pair with `n` present at `t` in either direction -/
theorem C08_nonNeighbors (d : Bool) (ops : List Op) (n k : Node) (t : Int) :
    let g := ((Graph.empty d false).run ops).1
    let log := (Graph.empty d false).runLog ops
    k ∈ g.nonNeighbors n (some t) ↔
      (k ∈ g.nodeList ∧ k ≠ n ∧
        ¬ (∃ t0 m, firstLogged d log k n = some t0 ∧ maxList (log.map (·.2.2.1)) = some m ∧ t0 ≤ t ∧ t ≤ m) ∧
        ¬ (∃ t0 m, firstLogged d log n k = some t0 ∧ maxList (log.map (·.2.2.1)) = some m ∧ t0 ≤ t ∧ t ≤ m)) := by
  simp only [← C08_presence, Bool.not_eq_true]
  exact C02_nonNeighbors_presence _ n k _

/-- C08 (number_of_interactions(u, v, t)): 1 when the pair is present at `t`, else 0 -/
theorem C08_numberOfInteractions2 (d : Bool) (ops : List Op) (u v : Node) (t : Int) :
    let g := ((Graph.empty d false).run ops).1
    let log := (Graph.empty d false).runLog ops
    (g.numberOfInteractions2 u v (some t) = 1 ↔
      ∃ t0 m, firstLogged d log u v = some t0 ∧ maxList (log.map (·.2.2.1)) = some m ∧ t0 ≤ t ∧ t ≤ m) ∧
    (g.numberOfInteractions2 u v (some t) = 0 ∨ g.numberOfInteractions2 u v (some t) = 1) := by
  simp only [← C08_presence, C02_numberOfInteractions2]
  cases ((Graph.empty d false).run ops).1.hasInteraction u v (some t) <;> simp

/-- C08 (size, DynDiGraph): the number of arcs present at `t` (`C08_outInteractions`: their duplicate-free list) -/
theorem C08_size_directed (ops : List Op) (t : Option Int) :
    let g := ((Graph.empty true false).run ops).1
    g.size t = (g.outInteractions none t).length := by
  intro g
  exact q2_size_directed (q1_run_keys true false ops) (q1_run_nodeInv true false ops).q2
    (run_directed _ ops) t

/-- C08 (size, DynGraph): Σ degree + (loops present at `t`) = 2 · (pairs present at `t`, listed by `C08_interactions`);
    so with no loop present `size(t)` is the number of pairs present, and with loops it is `(2·pairs − loops) / 2`:
    a loop adds 1, not 2, to the degree sum (known finding D14). -/
theorem C08_size_undirected (ops : List Op) (t : Option Int) :
    let g := ((Graph.empty false false).run ops).1
    let log := (Graph.empty false false).runLog ops
    g.degreeSum t + (g.nodeList.filter (fun n => g.hasInteraction n n t)).length =
      2 * (g.interactions none t).length ∧
    g.size t = g.degreeSum t / 2 ∧
    ((∀ n, ¬ c08q_accAt false log n n t) → g.size t = (g.interactions none t).length) := by
  intro g log
  have hk := q1_run_keys false false ops
  have hn := (q1_run_nodeInv false false ops).q2
  refine ⟨q2_degreeSum_undirected_loops hk hn (run_directed _ ops) t, rfl, fun hno => ?_⟩
  refine q2_size_undirected hk hn (run_directed _ ops) t fun n => ?_
  rw [← Bool.not_eq_true, c08q_has_iff]
  exact hno n

/-- `1–2` added at 0 with vanishing time 2 (ignored in accumulative mode), `3–4` added at 5 -/
def c08q_demo (d removal : Bool) : Graph :=
  ((Graph.empty d removal).run [Op.add 1 2 (some 0) (some 2), Op.add 3 4 (some 5) none]).1

/-- `1–2` is still there at 4 and at 5 (the largest snapshot id), not at 6, not before 0; `3–4` only at 5 -/
example : (c08q_demo false false).neighbors 1 (some 4) = [2] ∧
    (c08q_demo false false).neighbors 2 (some 5) = [1] ∧
    (c08q_demo false false).neighbors 1 (some 6) = [] ∧
    (c08q_demo false false).neighbors 1 (some (-1)) = [] ∧
    (c08q_demo false false).neighbors 3 (some 4) = [] ∧
    (c08q_demo false false).neighbors 3 (some 5) = [4] ∧
    (c08q_demo false false).hasInteraction 1 2 (some 4) = true := by decide

example : (c08q_demo false false).nodesAt (some 4) = [1, 2] ∧
    (c08q_demo false false).nodesAt (some 5) = [1, 2, 3, 4] ∧
    (c08q_demo false false).nodesAt none = [1, 2, 3, 4] ∧
    (c08q_demo false false).hasNode 2 (some 4) = true ∧
    (c08q_demo false false).hasNode 3 (some 4) = false ∧
    (c08q_demo false false).degree 1 (some 4) = 1 ∧
    (c08q_demo false false).numberOfNodes (some 4) = 2 ∧
    (c08q_demo false false).interactions none (some 4) = [(1, 2)] ∧
    (c08q_demo false false).interactions none (some 5) = [(1, 2), (3, 4)] ∧
    (c08q_demo false false).interactions none none = [(1, 2), (3, 4)] ∧
    (c08q_demo false false).size (some 5) = 2 := by decide

/-- the log of that history and the two ingredients of the presence condition -/
example : (Graph.empty false false).runLog [Op.add 1 2 (some 0) (some 2), Op.add 3 4 (some 5) none]
      = [(1, 2, 0, 0), (3, 4, 5, 5)] ∧
    firstLogged false [(1, 2, 0, 0), (3, 4, 5, 5)] 2 1 = some 0 ∧
    maxList ([(1, 2, 0, 0), (3, 4, 5, 5)].map (·.2.2.1)) = some 5 := by decide

/-- the same calls on a removal-enabled graph: `1–2` is gone at 4 -/
example : (c08q_demo false true).neighbors 1 (some 4) = [] ∧
    (c08q_demo false true).neighbors 1 (some 1) = [2] := by decide

/-- directed class -/
example : (c08q_demo true false).neighbors 1 (some 4) = [2] ∧
    (c08q_demo true false).neighbors 2 (some 4) = [] ∧
    (c08q_demo true false).predecessors 2 (some 4) = [1] ∧
    (c08q_demo true false).degree 2 (some 4) = 1 ∧
    (c08q_demo true false).outInteractions none (some 4) = [(1, 2)] ∧
    (c08q_demo true false).inInteractions none (some 5) = [(1, 2), (3, 4)] ∧
    (c08q_demo true false).size (some 5) = 2 := by decide

/-- known finding D10 is independent of the mode: `interactions()` drops the arc `2→0` because 0 was visited before 2
    (why `C08_interactions` is stated for DynGraph and `C08_outInteractions` / `C08_inInteractions` for DynDiGraph) -/
example :
    let g := ((Graph.empty true false).run [Op.add 0 1 (some 5) none, Op.add 2 0 (some 5) none]).1
    g.interactions none (some 5) = [(0, 1)] ∧ g.outInteractions none (some 5) = [(0, 1), (2, 0)] ∧
    g.hasInteraction 2 0 (some 5) = true := by decide

end Dynetx
