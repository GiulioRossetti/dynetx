import DynetxProofs.C09
import DynetxProofs.C10Stream
import DynetxProofs.C09Multi
/-
  Write, read, same graph: the text round trips of TextRoundtrip.lean / C09Multi.lean composed with the row-level results
  `C09_history` and `C10_roundtrip_partial`.
-/
namespace Dynetx

theorem c09_presence_of_read (d0 : Bool) (ops : List Op) {read : Bool → Graph × Option Err} :
    let g := ((Graph.empty d0 true).run ops).1
    read g.directed = parseSnapshots g.directed (g.genSnapshots.map (fun r => (r.1, r.2.1, r.2.2, none))) →
    ∃ H, read d0 = (H, none) ∧ WF H ∧ H.directed = d0 ∧
      ∀ u v x, H.hasInteraction u v (some x) = g.hasInteraction u v (some x) := by
  intro g h
  have hdir : g.directed = d0 := (history_ok d0 ops).directed
  rw [hdir] at h
  exact h ▸ (C09_history d0 ops).2.2

theorem C09_text_presence_gen (d0 : Bool) (ops : List Op) (cm d : Char)
    (hd : d.isDigit = false ∧ d ≠ '-') (hcm : cm.isDigit = false ∧ cm ≠ '-' ∧ cm ≠ d) :
    let g := ((Graph.empty d0 true).run ops).1
    ∃ H, parseSnapshotsText d0 cm (some d) (g.snapshotLines d) = (H, none) ∧ WF H ∧ H.directed = d0 ∧
      ∀ u v x, H.hasInteraction u v (some x) = g.hasInteraction u v (some x) :=
  c09_presence_of_read d0 ops (read := fun b => parseSnapshotsText b cm (some d) _) (C09_text_roundtrip _ cm d hd hcm)

theorem C09_text_presence_gen_default (d0 : Bool) (ops : List Op) (cm : Char)
    (hcm : cm.isDigit = false ∧ cm ≠ '-' ∧ cm ≠ ' ') :
    let g := ((Graph.empty d0 true).run ops).1
    ∃ H, parseSnapshotsText d0 cm none (g.snapshotLines ' ') = (H, none) ∧ WF H ∧ H.directed = d0 ∧
      ∀ u v x, H.hasInteraction u v (some x) = g.hasInteraction u v (some x) :=
  c09_presence_of_read d0 ops (read := fun b => parseSnapshotsText b cm none _) (C09_text_roundtrip_default _ cm hcm)

/-- **C09, text**: for every graph built by a history of calls, `write_snapshots` with the default delimiter followed
    by `read_snapshots` (comment marker `#`; reader delimiter `' '` or the default `None`) raises nothing and gives a
    graph with the same presence -/
theorem C09_text_presence (d0 : Bool) (ops : List Op) :
    let g := ((Graph.empty d0 true).run ops).1
    (∃ H, parseSnapshotsText d0 '#' (some ' ') (g.snapshotLines ' ') = (H, none) ∧
      ∀ u v x, H.hasInteraction u v (some x) = g.hasInteraction u v (some x)) ∧
    (∃ H, parseSnapshotsText d0 '#' none (g.snapshotLines ' ') = (H, none) ∧
      ∀ u v x, H.hasInteraction u v (some x) = g.hasInteraction u v (some x)) :=
  ⟨(C09_text_presence_gen d0 ops '#' ' ' (by decide) (by decide)).imp fun _ h => ⟨h.1, h.2.2.2⟩,
    (C09_text_presence_gen_default d0 ops '#' (by decide)).imp fun _ h => ⟨h.1, h.2.2.2⟩⟩

/-- **C10, text** (partial as `C10_roundtrip_partial` is: the hypothesis excludes the known finding D5): likewise for
    `write_interactions` and `read_interactions` -/
theorem C10_text_presence_partial (d0 : Bool) (ops : List Op) :
    let g := ((Graph.empty d0 true).run ops).1
    (∀ ed ∈ g.edges, ∀ s ∈ ed.tl, s.1 < s.2 →
      ∃ ev ∈ g.stream, ev.plus = false ∧ ev.t = s.2 + 1 ∧ sameKey d0 ed.u ed.v ev.u ev.v = true) →
    (∃ H, parseInteractionsText d0 '#' (some ' ') (g.interactionLines ' ') = (H, none) ∧ WF H ∧
      H.directed = d0 ∧ ∀ a b x, H.hasInteraction a b (some x) = g.hasInteraction a b (some x)) ∧
    (∃ H, parseInteractionsText d0 '#' none (g.interactionLines ' ') = (H, none) ∧ WF H ∧
      H.directed = d0 ∧ ∀ a b x, H.hasInteraction a b (some x) = g.hasInteraction a b (some x)) := by
  intro g hclosed
  have hdir : g.directed = d0 := (history_ok d0 ops).directed
  obtain ⟨H, h1, h2, h3, h4⟩ := (C10_roundtrip_partial d0 ops hclosed).2.2
  have e1 := C10_text_roundtrip g '#' ' ' (by decide) (by decide)
  have e2 := C10_text_roundtrip_default g '#' (by decide)
  rw [hdir] at e1 e2
  exact ⟨⟨H, e1.trans h1, h2, h3, h4⟩, ⟨H, e2.trans h1, h2, h3, h4⟩⟩

/-- **C09, text**, delimiter and marker of several characters -/
theorem C09S_text_presence (d0 : Bool) (ops : List Op) (cm D : List Char) (hD : D ≠ [])
    (hDc : ∀ c ∈ D, c.isDigit = false ∧ c ≠ '-' ∧ isWs c = false)
    (c0 : Char) (cs : List Char) (hcm : cm = c0 :: cs) (hc0 : c0.isDigit = false ∧ c0 ≠ '-' ∧ c0 ∉ D) :
    let g := ((Graph.empty d0 true).run ops).1
    ∃ H, parseSnapshotsTextS d0 cm (some D) (g.snapshotLinesS D) = (H, none) ∧ WF H ∧ H.directed = d0 ∧
      ∀ u v x, H.hasInteraction u v (some x) = g.hasInteraction u v (some x) :=
  c09_presence_of_read d0 ops (read := fun b => parseSnapshotsTextS b cm (some D) _)
    (C09S_text_roundtrip _ cm D hD hDc c0 cs hcm hc0)

end Dynetx
