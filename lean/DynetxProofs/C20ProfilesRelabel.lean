import DynetxProofs.C20HierRelabel
/-
  C20, clause "scores are invariant under renaming label values", for label PROFILES: static labels without hierarchies
  are a case of the full-featured model (`C20H_static`), where this is `C20H_relabel`.
-/
namespace Dynetx

/-- renaming static labels without hierarchies is `relabelTab`, `relabelHier` on them, by computation -/
theorem C20H_relabel_static (dg : Graph) (tab : LabelTable) (f : Nat → Nat → Nat) (hf : ∀ l, Function.Injective (f l))
    (start delta : Int) (alphas labels : List Nat) (profileSize ptype : Nat) :
    dg.deltaConformityH (fun l n => .static (f l (tab l n))) (fun _ => none) start delta alphas labels profileSize ptype
      = dg.deltaConformityH (fun l n => .static (tab l n)) (fun _ => none) start delta alphas labels profileSize ptype :=
  C20H_relabel dg (fun l n => .static (tab l n)) (fun _ => none) f hf start delta alphas labels profileSize ptype

/-- **C20 (renaming label values, profiles).**  Same keys, same scores, same exceptions. -/
theorem C20P_relabel (dg : Graph) (tab : LabelTable) (f : Nat → Nat → Nat) (hf : ∀ l, Function.Injective (f l))
    (start delta : Int) (alphas labels : List Nat) (profileSize ptype : Nat) :
    dg.deltaConformityP (fun l n => f l (tab l n)) start delta alphas labels profileSize ptype
      = dg.deltaConformityP tab start delta alphas labels profileSize ptype := by
  rw [← C20H_static, ← C20H_static]
  exact C20H_relabel_static dg tab f hf start delta alphas labels profileSize ptype

/-- the hypothesis is necessary: merging two values changes a score (witness at the level of one term) -/
example : labelFrequencyL (Graph.empty false true) (fun n => n) 0 [1] [] ≠
    labelFrequencyL (Graph.empty false true) (fun _ => 7) 0 [1] [] := by
  decide +kernel

end Dynetx
