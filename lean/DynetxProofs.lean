-- theorems about the model; DESIGN.md section 11.8 says what each module is for
-- lists, dictionaries, folds with early exit
import DynetxProofs.Lemmas.Lists
import DynetxProofs.Lemmas.Upsert
import DynetxProofs.Lemmas.FoldExit
-- one add_interaction, the folds over it, the invariants
import DynetxProofs.Spec
import DynetxProofs.Lemmas.Timeline
import DynetxProofs.Lemmas.Fields
import DynetxProofs.Lemmas.Step
import DynetxProofs.Lemmas.WF
import DynetxProofs.Lemmas.Core
import DynetxProofs.Lemmas.Folds
import DynetxProofs.Lemmas.History
import DynetxProofs.Lemmas.AddMany
import DynetxProofs.Lemmas.Snaps
import DynetxProofs.Lemmas.Counts
import DynetxProofs.Lemmas.Events
import DynetxProofs.Lemmas.Accum
import DynetxProofs.WFAll
import DynetxProofs.Properties
import DynetxProofs.C05
-- queries
import DynetxProofs.Q1
import DynetxProofs.Q2
import DynetxProofs.C08Query
-- derived graphs and statistics
import DynetxProofs.Lemmas.Rebuild
import DynetxProofs.C06
import DynetxProofs.C16
import DynetxProofs.C17
import DynetxProofs.C17Density
-- files: rows, node-link data, compact_timeslot
import DynetxProofs.C09
import DynetxProofs.C10
import DynetxProofs.C10Stream
import DynetxProofs.C11
import DynetxProofs.C11Attrs
import DynetxProofs.C18
-- files: the text of a line
import DynetxProofs.TextRows
import DynetxProofs.C18Text
import DynetxProofs.C18Multi
import DynetxProofs.C18Terminator
import DynetxProofs.TextDigits
import DynetxProofs.TextNames
import DynetxProofs.TextRoundtrip
import DynetxProofs.C09Multi
import DynetxProofs.TextPresence
import DynetxProofs.C12Text
-- paths
import DynetxProofs.C15
import DynetxProofs.C12
import DynetxProofs.C13
import DynetxProofs.C14
import DynetxProofs.PathsHistory
-- the API table
import DynetxProofs.C19
-- delta-conformity
import DynetxProofs.ConfWindow
import DynetxProofs.C20
import DynetxProofs.C20Hier
import DynetxProofs.C20Profiles
import DynetxProofs.C20HierRelabel
import DynetxProofs.C20ProfilesRelabel
import DynetxProofs.C20Sliding
import DynetxProofs.C20Rename
-- renaming of node ids
import DynetxProofs.Rn.Attr
import DynetxProofs.Rn.MapInj
import DynetxProofs.Equivariance
import DynetxProofs.EquivarianceHistory
import DynetxProofs.EquivarianceIO
import DynetxProofs.EquivarianceConformity
